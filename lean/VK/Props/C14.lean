/-
  Property C14 — ballot generators return well-formed profiles of exactly the requested size.

  The theorems are about the pure builders of `VK.Model.Gen` (the functions the replay layer
  assembles profiles with) and hold for every number of ballots, candidates and blocs, and for
  every recorded draw that meets the primitive's contract (duplicate-free for `replace=False`,
  members of the population). The replay layer `Gen.run` *checks* those contracts on every recorded
  call, so a run it accepts satisfies the hypotheses.
-/
import VK.Model.Gen
import VK.Lemmas.Condense
import VK.Lemmas.Sum
import VK.Lemmas.SortCands
import Mathlib.Data.List.Perm.Basic
import Mathlib.Data.List.Nodup

namespace VK
open Gen

/-- **Total size.** Counting a pool of `N` unit ballots gives total weight exactly `N`. -/
theorem C14_pool_total (bs : List Ballot) (h : ∀ b ∈ bs, b.weight = 1) :
    totalWeight (condense bs) = (bs.length : Rat) := by
  have : bs.map (·.weight) = List.replicate bs.length 1 :=
    List.eq_replicate_iff.2 ⟨List.length_map _, fun w hw => by
      obtain ⟨b, hb, rfl⟩ := List.mem_map.1 hw; exact h b hb⟩
  rw [totalWeight_condense, totalWeight, this, rsum_replicate, mul_one]

def PosInt (acc : List (Content × Rat)) : Prop := ∀ kw ∈ acc, ∃ n : Nat, 0 < n ∧ kw.2 = (n : Rat)

theorem accAdd_posInt (k : Content) (acc : List (Content × Rat)) (h : PosInt acc) : PosInt (accAdd k 1 acc) := by
  induction acc with
  | nil => exact fun kw hkw => ⟨1, Nat.one_pos, by rw [List.mem_singleton.1 hkw]; exact Nat.cast_one.symm⟩
  | cons e rest ih =>
    have hrest : PosInt rest := fun x hx => h x (List.mem_cons_of_mem _ hx)
    unfold accAdd
    split
    · obtain ⟨n, hn, hw⟩ := h _ List.mem_cons_self
      exact List.forall_mem_cons.2 ⟨⟨n + 1, n.succ_pos, by rw [Nat.cast_succ, ← hw]⟩, hrest⟩
    · exact List.forall_mem_cons.2 ⟨h _ List.mem_cons_self, ih hrest⟩

theorem foldl_accAdd_posInt (bs : List Ballot) (hw : ∀ b ∈ bs, b.weight = 1) (acc : List (Content × Rat))
    (h : PosInt acc) : PosInt (bs.foldl (fun acc b => accAdd b.content b.weight acc) acc) := by
  induction bs generalizing acc with
  | nil => exact h
  | cons b bs ih =>
    have := accAdd_posInt b.content acc h
    rw [← hw b List.mem_cons_self] at this
    exact ih (fun x hx => hw x (List.mem_cons_of_mem _ hx)) _ this

/-- **Whole positive weights.** Every ballot of the counted pool has a positive whole-number weight. -/
theorem C14_pool_weights_pos_int (bs : List Ballot) (h : ∀ b ∈ bs, b.weight = 1) :
    ∀ b ∈ condense bs, ∃ n : Nat, 0 < n ∧ b.weight = (n : Rat) := by
  intro b hb
  unfold condense at hb
  obtain ⟨kw, hkw, rfl⟩ := List.mem_map.1 hb
  exact foldl_accAdd_posInt bs h [] nofun kw hkw

/-- for a quantity additive over `++` and unchanged by counting, counting the whole pool or bloc by bloc
gives the same -/
theorem condense_flatten_additive (F : List Ballot → Rat) (h0 : F [] = 0) (happ : ∀ a b, F (a ++ b) = F a + F b)
    (hc : ∀ bs, F (condense bs) = F bs) (bb : List (List Ballot)) :
    F (condense bb.flatten) = rsum (bb.map fun bs => F (condense bs)) := by
  rw [hc]
  induction bb with
  | nil => exact h0
  | cons bs rest ih => rw [List.flatten_cons, happ, ih, List.map_cons, rsum_cons, hc]

/-- **By-bloc profiles add up.** The aggregate (count of all ballots) gives every content the sum
of the weights the per-bloc profiles give it. -/
theorem C14_sum_profiles_wt (bb : List (List Ballot)) (k : Content) :
    wt (condense bb.flatten) k = rsum (bb.map (fun bs => wt (condense bs) k)) :=
  condense_flatten_additive (wt · k) rfl (wt_append · · k) (wt_condense · k) bb

/-- the aggregate's total weight is the sum of the bloc sizes -/
theorem C14_sum_profiles_total (bb : List (List Ballot)) :
    totalWeight (condense bb.flatten) = rsum (bb.map (fun bs => totalWeight (condense bs))) :=
  condense_flatten_additive totalWeight rfl totalWeight_append totalWeight_condense bb

theorem plBallot_flatten (draw tied : List Cand) :
    (plBallot draw tied).ranking.flatten = draw ++ sortCands tied := by
  unfold plBallot
  rw [List.flatten_append, singletons, ← List.flatMap_def, List.flatMap_singleton']
  cases tied <;> simp [sortCands]

theorem plBallot_flatten_mem (draw tied : List Cand) (x : Cand) :
    x ∈ (plBallot draw tied).ranking.flatten ↔ x ∈ draw ∨ x ∈ tied := by
  rw [plBallot_flatten, List.mem_append, mem_sortCands]

/-- **No candidate twice, only declared candidates.** A ballot built from a duplicate-free draw and
a duplicate-free tied group disjoint from it lists no candidate twice, and only candidates of the
draw's population and of the tied group. -/
theorem C14_pl_ballot_wellformed (draw tied cands : List Cand) (hd : draw.Nodup)
    (hdisj : ∀ c ∈ draw, c ∉ tied) (hdc : ∀ c ∈ draw, c ∈ cands) (htc : ∀ c ∈ tied, c ∈ cands) :
    (plBallot draw tied).ranking.flatten.Nodup ∧ ∀ c ∈ (plBallot draw tied).ranking.flatten, c ∈ cands := by
  constructor
  · rw [plBallot_flatten, List.nodup_append]
    exact ⟨hd, sortCands_nodup tied, fun a ha b hb hab => hdisj a ha ((mem_sortCands a tied).1 (hab ▸ hb))⟩
  · exact fun c hc => ((plBallot_flatten_mem draw tied c).1 hc).elim (hdc c) (htc c)

/-- **Complete rankings.** When the draw is an order of all supported candidates and the tied group
is the set of zero-support candidates, the ballot lists exactly the declared candidates, the
supported ones one per position, the zero-support ones as a single final group. -/
theorem C14_pl_ballot_complete (draw zeros cands : List Cand)
    (hcover : ∀ c, c ∈ cands ↔ c ∈ draw ∨ c ∈ zeros) :
    (∀ c, c ∈ (plBallot draw zeros).ranking.flatten ↔ c ∈ cands) ∧
    (plBallot draw zeros).ranking.take draw.length = singletons draw ∧
    (plBallot draw zeros).ranking.drop draw.length = (if zeros.isEmpty then [] else [sortCands zeros]) := by
  have hlen : (singletons draw).length = draw.length := List.length_map _
  exact ⟨fun c => by rw [plBallot_flatten_mem, hcover], List.take_left' hlen, List.drop_left' hlen⟩

/-- **Short Plackett–Luce length.** With `k = min L |supported|` drawn candidates and `L - |supported|`
tied zero-support candidates the ballot lists exactly `L` candidates. -/
theorem C14_short_pl_length (draw tied : List Cand) (L nz : Nat) (ht : tied.Nodup)
    (hd : draw.length = min L nz) (htl : tied.length = L - nz) :
    (plBallot draw tied).ranking.flatten.length = L := by
  rw [plBallot_flatten, List.length_append, (sortCands_perm tied ht).length_eq, hd, htl]
  omega

/-- Σ over a duplicate-free list that contains every element of `l` of the multiplicities is `|l|`: write each
multiplicity as a sum of indicators over `l` and swap the sums; every `x ∈ l` is then counted by exactly one key -/
theorem sum_countOf (keys l : List Cand) (hk : keys.Nodup) (hl : ∀ x ∈ l, x ∈ keys) :
    rsum (keys.map (fun c => ((countOf c l : Nat) : Rat))) = (l.length : Rat) := by
  have hcount : ∀ c, ((countOf c l : Nat) : Rat) = rsum (l.map fun x => if decide (x = c) then (1 : Rat) else 0) :=
    fun c => by rw [rsum_map_ite_const, mul_one]; rfl
  have hone : ∀ x ∈ l, rsum (keys.map fun c => if decide (x = c) then (1 : Rat) else 0) = 1 := fun x hx => by
    rw [rsum_map_ite_const, mul_one, ← List.countP_eq_length_filter,
      List.countP_congr (q := (· == x)) fun c _ => by rw [decide_eq_true_eq, beq_iff_eq, eq_comm]]
    exact_mod_cast List.count_eq_one_of_mem hk (hl x hx)
  simp only [hcount]
  rw [rsum_comm, List.map_congr_left hone, List.map_const', rsum_replicate, mul_one]

/-- **Cumulative points.** A cumulative ballot distributes exactly as many points as draws were made,
in whole positive amounts, on drawn candidates only. -/
theorem C14_cumulative_points (draw : List Cand) :
    rsum ((cumulativeBallot draw).scores.map (·.2)) = (draw.length : Rat) ∧
    (∀ cs ∈ (cumulativeBallot draw).scores, cs.1 ∈ draw ∧ ∃ n : Nat, 0 < n ∧ cs.2 = (n : Rat)) ∧
    (cumulativeBallot draw).ranking = [] := by
  refine ⟨?_, ?_, rfl⟩
  · unfold cumulativeBallot
    simp only [List.map_map, Function.comp_def]
    exact sum_countOf (sortCands draw) draw (sortCands_nodup draw) (fun x hx => (mem_sortCands x draw).2 hx)
  · intro cs hcs
    unfold cumulativeBallot at hcs
    simp only [List.mem_map] at hcs
    obtain ⟨c, hc, rfl⟩ := hcs
    have hcd : c ∈ draw := (mem_sortCands c draw).1 hc
    refine ⟨hcd, countOf c draw, ?_, rfl⟩
    unfold countOf
    exact List.length_pos_of_mem (List.mem_filter.2 ⟨hcd, by simp⟩)

theorem popAt_flatten_perm (orders : List (List Cand)) (s : Nat) (c : Cand) (rest : List Cand)
    (h : orders[s]? = some (c :: rest)) : (c :: (popAt orders s).flatten).Perm orders.flatten := by
  induction orders generalizing s with
  | nil => cases h
  | cons l ls ih =>
    cases s with
    | zero => obtain rfl : l = c :: rest := Option.some.inj h; exact List.Perm.refl _
    | succ s => exact List.perm_middle.symm.trans ((ih s h).append_left l)

/-- **Filled patterns.** Filling a slate pattern with the per-slate orders uses each candidate of
those orders at most once: the result together with what is left over is a rearrangement of the
orders, so it has no repeated candidate when the slates are disjoint and duplicate-free, lists only
candidates of the orders, and has one candidate per pattern entry. -/
theorem C14_fill_wellformed (ty : List Nat) (orders : List (List Cand)) (r : List Cand)
    (h : fillPattern ty orders = some r) :
    r.length = ty.length ∧ ∃ left : List Cand, (r ++ left).Perm orders.flatten := by
  induction ty generalizing orders r with
  | nil => cases h; exact ⟨rfl, orders.flatten, List.Perm.refl _⟩
  | cons s rest ih =>
    unfold fillPattern at h
    split at h
    · next c tl hget =>
      obtain ⟨r', hrec, rfl⟩ := Option.map_eq_some_iff.1 h
      obtain ⟨hl, left, hp⟩ := ih _ _ hrec
      exact ⟨congrArg (· + 1) hl, left, (hp.cons c).trans (popAt_flatten_perm orders s c tl hget)⟩
    · cases h

/-- consequence: duplicate-free disjoint slates give a duplicate-free ballot -/
theorem C14_fill_nodup (ty : List Nat) (orders : List (List Cand)) (r : List Cand)
    (h : fillPattern ty orders = some r) (hn : orders.flatten.Nodup) : r.Nodup := by
  obtain ⟨_, left, hp⟩ := C14_fill_wellformed ty orders r h
  exact (List.nodup_append.1 (hp.nodup_iff.2 hn)).1

theorem insertByDist_perm (c : Cand) (d : Rat) (l : List (Cand × Rat)) :
    (insertByDist c d l).Perm ((c, d) :: l) := by
  induction l with
  | nil => simp [insertByDist]
  | cons e rest ih =>
    obtain ⟨c', d'⟩ := e
    unfold insertByDist
    split
    · exact List.Perm.refl _
    · exact (List.Perm.cons _ ih).trans (List.Perm.swap _ _ _)

/-- **Spatial ballots are complete.** The distance sort rearranges the candidates: every candidate
is ranked exactly once. -/
theorem C14_sort_perm (cds : List (Cand × Rat)) : (sortByDist cds).Perm cds := by
  unfold sortByDist
  induction cds with
  | nil => simp
  | cons e rest ih =>
    simp only [List.foldr_cons]
    exact (insertByDist_perm e.1 e.2 _).trans (List.Perm.cons _ ih)

theorem sumNat_eq_sum (l : List Nat) : sumNat l = l.sum := List.sum_eq_foldl.symm

theorem bumpAt_seats (vs : List (Rat × Nat)) (i : Nat) (h : i < vs.length) :
    ((bumpAt vs i).map (·.2)).sum = (vs.map (·.2)).sum + 1 := by
  induction vs generalizing i with
  | nil => cases h
  | cons e rest ih =>
    obtain ⟨v, s⟩ := e
    cases i with
    | zero => simp only [bumpAt, List.map_cons, List.sum_cons]; omega
    | succ i => simp only [bumpAt, List.map_cons, List.sum_cons, ih i (Nat.lt_of_succ_lt_succ h)]; omega

theorem bumpAt_length (vs : List (Rat × Nat)) (i : Nat) : (bumpAt vs i).length = vs.length := by
  induction vs generalizing i with
  | nil => rfl
  | cons e rest ih => obtain ⟨v, s⟩ := e; cases i <;> simp [bumpAt, ih]

theorem bumpAt_weights (vs : List (Rat × Nat)) (i : Nat) : (bumpAt vs i).map (·.1) = vs.map (·.1) := by
  induction vs generalizing i with
  | nil => rfl
  | cons e rest ih => obtain ⟨v, s⟩ := e; cases i <;> simp [bumpAt, ih]

theorem foldl_pick {α} {step : α → α → α} (hstep : ∀ b i, step b i = b ∨ step b i = i) {p : α → Prop}
    (l : List α) (b : α) (hb : p b) (hl : ∀ x ∈ l, p x) : p (l.foldl step b) := by
  induction l generalizing b with
  | nil => exact hb
  | cons x xs ih =>
    refine ih _ ?_ fun y hy => hl y (List.mem_cons_of_mem _ hy)
    rcases hstep b x with h | h <;> rw [h]
    exacts [hb, hl x List.mem_cons_self]

theorem hhPick_lt (vs : List (Rat × Nat)) (i : Nat) (t : Bool) (h : hhPick vs = some (i, t)) : i < vs.length := by
  unfold hhPick at h
  simp only at h
  split at h
  · cases h
  · next i0 rest hidx =>
    have hmem : ∀ j ∈ i0 :: rest, j < vs.length := fun j hj =>
      List.mem_range.1 (List.mem_filter.1 (hidx ▸ hj)).1
    rw [← (Prod.mk.inj (Option.some.inj h)).1]
    refine foldl_pick (p := (· < vs.length)) (fun b i => ?_) rest i0 (hmem i0 List.mem_cons_self)
      fun j hj => hmem j (List.mem_cons_of_mem _ hj)
    -- the fold step of `hhPick`: both entries present and `hhBetter` takes `i`, otherwise keeps `b`
    split
    · split
      exacts [Or.inr rfl, Or.inl rfl]
    · exact Or.inl rfl

theorem hhPick_isSome (vs : List (Rat × Nat)) (h : ∃ v ∈ vs.map (·.1), (0 : Rat) < v) : (hhPick vs).isSome := by
  obtain ⟨_, hv, hpos⟩ := h
  obtain ⟨⟨v, s⟩, he, rfl⟩ := List.mem_map.1 hv
  obtain ⟨i, hi, hget⟩ := List.getElem_of_mem he
  unfold hhPick
  simp only
  split
  · next hnil =>
    have := List.filter_eq_nil_iff.1 hnil i (List.mem_range.2 hi)
    rw [List.getElem?_eq_getElem hi, hget] at this
    exact absurd (decide_eq_true hpos) this
  · rfl

theorem hhLoop_seats (n : Nat) (vs : List (Rat × Nat)) (tie : Bool) (h : ∃ v ∈ vs.map (·.1), (0 : Rat) < v) :
    ((hhLoop n vs tie).1.map (·.2)).sum = (vs.map (·.2)).sum + n := by
  induction n generalizing vs tie with
  | zero => rfl
  | succ n ih =>
    unfold hhLoop
    cases hp : hhPick vs with
    | none => have := hhPick_isSome vs h; rw [hp] at this; cases this
    | some it =>
      simp only
      rw [ih _ _ (by rwa [bumpAt_weights]), bumpAt_seats vs it.1 (hhPick_lt vs it.1 it.2 hp)]
      omega

/-- **Huntington–Hill hands out exactly `N` seats** (when some proportion is positive). -/
theorem C14_hh_total (props : List Rat) (n : Nat) (h : ∃ v ∈ props, (0 : Rat) < v) :
    sumNat (huntingtonHill props n).1 = n := by
  unfold huntingtonHill
  have hw : (props.map (fun v => ((v, 0) : Rat × Nat))).map (·.1) = props := by
    rw [List.map_map]; exact List.map_id _
  rw [sumNat_eq_sum, hhLoop_seats n _ false (by rwa [hw]), List.map_map]
  simp [Function.comp_def]

example : (plBallot [2, 0] [3, 1]).ranking = [[2], [0], [1, 3]] := by decide
example : fillPattern [0, 1, 0] [[5, 6], [7]] = some [5, 7, 6] := by decide
example : (cumulativeBallot [1, 1, 0]).scores = [(0, 1), (1, 2)] := by decide +kernel
example : huntingtonHill [3, 1] 4 = ([3, 1], false) := by decide +kernel
example : (sortByDist [(0, 2), (1, 1), (2, 2)]).map (·.1) = [1, 0, 2] := by decide +kernel

end VK
