/-
  Property C20 — invalid requests are rejected up front with the documented error.
  A model entry point returns `Outcome`; `raised e` carries no state list, so "no partial result"
  is part of every statement below.
-/
import VK.Model.Validate
import VK.Lemmas.Sum
import VK.Lemmas.Outcome

namespace VK

theorem rankingValid_of_empty_ranking {p : Profile} (h : ∃ b ∈ p.ballots, b.ranking = []) :
    rankingValid p = false := by
  obtain ⟨b, hb, hr⟩ := h
  exact List.all_eq_false.2 ⟨b, hb, by simp [hr]⟩

/-- **A score vector is accepted iff it is non-negative and non-increasing** (equal neighbours and
zeros are fine). -/
theorem C20_vector_valid_iff (v : List Rat) :
    validVector v = true ↔ (∀ x ∈ v, 0 ≤ x) ∧ v.Pairwise (fun a b => b ≤ a) := by
  induction v with
  | nil => simp [validVector]
  | cons x rest ih =>
    cases rest with
    | nil => simp [validVector]
    | cons y rest' =>
      simp only [validVector, Bool.and_eq_true, decide_eq_true_eq, ih, List.forall_mem_cons,
        List.pairwise_cons]
      constructor
      · rintro ⟨⟨hx, hyx⟩, hall, hy, hpw⟩
        exact ⟨⟨hx, hall⟩, ⟨hyx, fun z hz => (hy z hz).trans hyx⟩, hy, hpw⟩
      · rintro ⟨⟨hx, hall⟩, ⟨hyx, -⟩, hy, hpw⟩
        exact ⟨⟨hx, hyx⟩, hall, hy, hpw⟩

theorem bordaVector_valid (n : Nat) : validVector (bordaVector n) = true := by
  rw [C20_vector_valid_iff]
  constructor
  · intro x hx
    obtain ⟨i, _, rfl⟩ := List.mem_map.1 hx
    positivity
  · unfold bordaVector
    rw [List.pairwise_map]
    apply List.Pairwise.imp _ (List.pairwise_lt_range)
    intro a b hab
    have : n - b ≤ n - a := by omega
    exact_mod_cast this

/-- **A ballot without a ranking makes every ranking rule raise TypeError** (for the rules that
take `m`, once `m` itself is acceptable; Borda once its vector is). -/
theorem C20_ranking_rule_needs_rankings (p : Profile) (h : ∃ b ∈ p.ballots, b.ranking = []) :
    (∀ m tb pri, pluralityRun p m tb pri = .raised .typeError) ∧
    (∀ m tb pri, sntvRun p m tb pri = .raised .typeError) ∧
    (∀ m tb pri, bordaRun p m none tb pri = .raised .typeError) ∧
    (∀ tb pri, topTwoRun p tb pri = .raised .typeError) ∧
    (dominatingSetsRun p = .raised .typeError) ∧
    (∀ m pri, condoBordaRun p m pri = .raised .typeError) ∧
    (∀ (m : Int) ω, 0 < m → m ≤ p.cands.length → randomDictatorRun p m ω = .raised .typeError) ∧
    (∀ (m : Int) ω, 0 < m → m ≤ p.cands.length → boostedRun p m ω = .raised .typeError) ∧
    (∀ cfg ω qok, stvRun cfg p ω qok = .raised .typeError) ∧
    (∀ (m1 m2 : Int) cfg ω, 0 < m2 → m2 ≤ m1 → alaskaRun p m1 m2 cfg ω = .raised .typeError) := by
  have hv := rankingValid_of_empty_ranking h
  have hborda := bordaVector_valid p.cands.length
  refine ⟨?_, ?_, ?_, ?_, ?_, ?_, ?_, ?_, ?_, ?_⟩
  · intro m tb pri; simp [pluralityRun, hv]
  · intro m tb pri; simp [sntvRun, pluralityRun, hv]
  · intro m tb pri; simp [bordaRun, hv, hborda]
  · intro tb pri; simp [topTwoRun, hv]
  · simp [dominatingSetsRun, hv]
  · intro m pri; simp [condoBordaRun, hv]
  · intro m ω h1 h2
    have : ¬ (m ≤ 0 ∨ (p.cands.length : Int) < m) := not_or.2 ⟨not_le.2 h1, not_lt.2 h2⟩
    simp [randomDictatorRun, hv, this]
  · intro m ω h1 h2
    have : ¬ (m ≤ 0 ∨ (p.cands.length : Int) < m) := not_or.2 ⟨not_le.2 h1, not_lt.2 h2⟩
    simp [boostedRun, hv, this]
  · intro cfg ω qok
    obtain ⟨b, hb, hr⟩ := h
    have : stvValidProfile p = false := List.all_eq_false.2 ⟨b, hb, by simp [hr]⟩
    simp [stvRun, this]
  · intro m1 m2 cfg ω h1 h2
    unfold alaskaRun
    rw [if_neg (by simp only [Bool.or_eq_true, decide_eq_true_eq]; omega)]
    simp [hv]

/-- **STV-family validation.** A profile passes iff every ballot has a ranking without tied
positions; a failing profile is a TypeError; with a passing profile, a seat count outside `1..n`
or an unknown quota name is a ValueError. -/
theorem C20_stv_rejects (cfg : STVCfg) (p : Profile) (ω : STVOracle) (qok : Bool) :
    (stvValidProfile p = true ↔ ∀ b ∈ p.ballots, b.ranking ≠ [] ∧ ∀ s ∈ b.ranking, s.length ≤ 1) ∧
    (stvValidProfile p = false → stvRun cfg p ω qok = .raised .typeError) ∧
    (stvValidProfile p = true → (cfg.m = 0 ∨ p.cands.length < cfg.m) →
      stvRun cfg p ω qok = .raised .valueError) ∧
    (stvValidProfile p = true → ¬ (cfg.m = 0 ∨ p.cands.length < cfg.m) → qok = false →
      stvRun cfg p ω qok = .raised .valueError) := by
  refine ⟨?_, ?_, ?_, ?_⟩
  · unfold stvValidProfile
    simp only [List.all_eq_true, Bool.and_eq_true, Bool.not_eq_true', List.isEmpty_eq_false_iff,
      decide_eq_true_eq]
  · intro h; simp [stvRun, h]
  · intro h hm
    have : (cfg.m = 0 ∨ cfg.m > p.cands.length) := hm
    simp [stvRun, h, this]
  · intro h hm hq
    have : ¬ (cfg.m = 0 ∨ cfg.m > p.cands.length) := hm
    simp [stvRun, h, this, hq]

/-- **Alaska's stage sizes** must satisfy `m_1 ≥ m_2 ≥ 1`; anything else is a ValueError before the
profile is even looked at. -/
theorem C20_alaska_stage_sizes (p : Profile) (m1 m2 : Int) (cfg : STVCfg) (ω : STVOracle)
    (h : m1 ≤ 0 ∨ m2 ≤ 0 ∨ m1 < m2) : alaskaRun p m1 m2 cfg ω = .raised .valueError := by
  unfold alaskaRun
  rw [if_pos (by simp only [Bool.or_eq_true, decide_eq_true_eq]; omega)]

/-- an invalid vector is rejected by every entry point that takes one -/
theorem C20_vector_rejected (v : List Rat) (h : validVector v = false) (p : Profile) :
    scoreFromRankings p v = .raised .valueError ∧
    (v ≠ [] → ∀ m tb pri, bordaRun p m (some v) tb pri = .raised .valueError) := by
  constructor
  · simp [scoreFromRankings, h]
  · intro hne m tb pri
    cases v with
    | nil => exact absurd rfl hne
    | cons x xs => simp [bordaRun, h]

/-- **Rating arguments**: accepted iff `m > 0`, `L > 0` and, when a budget is given, `k > 0` and
`L ≤ k`; anything else is a ValueError. -/
theorem C20_rating_args_iff (p : Profile) (m : Int) (L : Rat) (k : Option Rat) (tb : Option TB)
    (pri : List Cand) :
    (ratingArgsOk m L k = true ↔ 0 < m ∧ 0 < L ∧ ∀ kk, k = some kk → 0 < kk ∧ L ≤ kk) ∧
    (ratingArgsOk m L k = false → generalRatingRun p m L k tb pri = .raised .valueError) := by
  constructor
  · cases k <;> simp [ratingArgsOk, and_assoc]
  · intro h; simp [generalRatingRun, h]

/-- RandomDictator and BoostedRandomDictator need `1 ≤ m ≤ n` -/
theorem C20_dictator_seats (p : Profile) (m : Int) (ω : RDOracle)
    (h : m ≤ 0 ∨ (p.cands.length : Int) < m) :
    randomDictatorRun p m ω = .raised .valueError ∧ boostedRun p m ω = .raised .valueError := by
  constructor
  · simp [randomDictatorRun, h]
  · simp [boostedRun, h]

theorem genInit_ok_or_raised (a : GenArgs) :
    genInit a = .ok () ∨ genInit a = .raised .valueError := by
  unfold genInit
  repeat' apply Outcome.ite_ok_or_raised
  all_goals first | exact .inl rfl | exact .inr rfl

/-- **Generator construction** succeeds iff candidates or slates are given and — when any of the
three bloc parameters is given — all three are, the bloc proportions sum to one, the three bloc
name sets coincide and every cohesion row sums to one; every failure is a ValueError. -/
theorem C20_gen_init_iff (a : GenArgs) :
    (genInit a = .ok () ↔
      (a.hasCandidates = true ∨ a.hasSlates = true) ∧
      ((a.hasIntervals = true ∨ a.hasCohesion = true ∨ a.hasProps = true) →
        a.hasIntervals = true ∧ a.hasCohesion = true ∧ a.hasProps = true ∧ a.propSum8 = 1 ∧
        a.propBlocs = a.intervalBlocs ∧ a.propBlocs = a.cohesionBlocs ∧
        ∀ s ∈ a.cohesionSums8, s = 1)) ∧
    (genInit a ≠ .ok () → genInit a = .raised .valueError) := by
  refine ⟨?_, (genInit_ok_or_raised a).resolve_left⟩
  unfold genInit
  simp only [Outcome.ite_raised_eq_ok, Outcome.ite_ok_eq_ok]
  simp only [Bool.and_eq_true, Bool.not_eq_eq_eq_not, Bool.not_true, not_and, Bool.not_eq_false,
    Bool.or_eq_true, or_iff_not_imp_left, Bool.not_eq_true, Classical.not_imp, and_imp, Bool.not_and, ne_eq,
    Decidable.not_not, decide_not, List.any_eq_true, decide_eq_false_iff_not, reduceCtorEq, imp_false, not_exists,
    and_assoc, and_congr_right_iff]
  -- the test `intervalBlocs ≠ cohesionBlocs` cannot fire after the two before it
  refine fun _ => imp_congr_right fun _ => ⟨?_, ?_⟩
  · rintro ⟨hi, hc, hp, hs, e1, e2, -, hr⟩; exact ⟨hi, hc, hp, hs, e1, e2, hr⟩
  · rintro ⟨hi, hc, hp, hs, e1, e2, hr⟩; exact ⟨hi, hc, hp, hs, e1, e2, e1.symm.trans e2, hr⟩

/-- **Combining preference intervals** is accepted iff the code's own test passes - all candidates
together, duplicates removed, are as many as the sets one by one (its way of asking for pairwise disjoint
sets; disjointness itself is not derived) - and the proportions sum to one; otherwise ValueError. -/
theorem C20_combine_iff (candSets : List (List Cand)) (s : Rat) :
    (combineCheck candSets s = .ok () ↔
      (sortCands candSets.flatten).length =
        (candSets.map (fun c => (sortCands c).length)).foldl (· + ·) 0 ∧ s = 1) ∧
    (combineCheck candSets s ≠ .ok () → combineCheck candSets s = .raised .valueError) := by
  constructor
  · simp only [combineCheck, Outcome.ite_raised_eq_ok, ne_eq, not_not, and_true]
  · unfold combineCheck
    exact (Outcome.ite_ok_or_raised (.inr rfl) (Outcome.ite_ok_or_raised (.inr rfl) (.inl rfl))).resolve_left

/-- non-vacuity: boundary values -/
example : validVector [3, 3, 0] = true ∧ validVector [3, 3 + 1 / 1000000] = false ∧
    validVector [1, -1 / 1000000] = false ∧
    ratingArgsOk 1 1 (some 1) = true ∧ ratingArgsOk 1 1 (some 0) = false ∧
    ratingArgsOk 1 (1 + 1 / 1000000) (some 1) = false := by decide +kernel

end VK
