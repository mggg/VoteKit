/-
  Property C15 — closed-form model probabilities equal their definitions.
-/
import VK.Model.Interval
import VK.Lemmas.Sum
import VK.Lemmas.Outcome
import Mathlib.Algebra.BigOperators.Group.List.Lemmas

namespace VK

theorem C15_table_sums_to_one {α} (l : List α) (w : α → Rat) (hZ : rsum (l.map w) ≠ 0) :
    rsum (l.map (fun a => w a / rsum (l.map w))) = 1 :=
  rsum_map_div_total l w hZ

theorem mkInterval_ok (supports : List (Cand × Rat)) (iv : Interval) (h : mkInterval supports = .ok iv) :
    rsum ((supports.filter (fun cs => decide (0 < cs.2))).map (·.2)) ≠ 0 ∧
    iv = { interval := (supports.filter (fun cs => decide (0 < cs.2))).map (fun cs =>
             (cs.1, cs.2 / rsum ((supports.filter (fun cs => decide (0 < cs.2))).map (·.2)))),
           zeros := (supports.filter (fun cs => cs.2 = 0)).map (·.1) } := by
  unfold mkInterval at h
  simp only [] at h
  split at h
  · cases h
  · cases h
    exact ⟨‹_›, rfl⟩

/-- **A preference interval is the positive supports rescaled to sum to one, zero-support
candidates set aside.** -/
theorem C15_normalize (supports : List (Cand × Rat)) (iv : Interval) (h : mkInterval supports = .ok iv) :
    rsum (iv.interval.map (·.2)) = 1 ∧
    iv.interval.map (·.1) = (supports.filter (fun cs => decide (0 < cs.2))).map (·.1) ∧
    iv.zeros = (supports.filter (fun cs => cs.2 = 0)).map (·.1) ∧
    ∀ cs ∈ iv.interval, 0 < cs.2 := by
  obtain ⟨hZ, rfl⟩ := mkInterval_ok supports iv h
  have hpos : ∀ cs ∈ supports.filter (fun cs => decide (0 < cs.2)), 0 < cs.2 := fun cs hcs =>
    of_decide_eq_true (List.mem_filter.1 hcs).2
  refine ⟨?_, ?_, rfl, ?_⟩
  · rw [List.map_map]
    exact C15_table_sums_to_one _ (fun cs : Cand × Rat => cs.2) hZ
  · rw [List.map_map]; rfl
  · intro cs hcs
    obtain ⟨c0, hc0, rfl⟩ := List.mem_map.1 hcs
    refine div_pos (hpos c0 hc0) (lt_of_le_of_ne (rsum_nonneg _ ?_) (Ne.symm hZ))
    intro x hx
    obtain ⟨c1, hc1, rfl⟩ := List.mem_map.1 hx
    exact (hpos c1 hc1).le

/-- **The name-Bradley-Terry table sums to one.** -/
theorem C15_bt_sum_one (x : List (Cand × Rat))
    (hZ : rsum ((perms (x.map (·.1))).map (fun r => powProd (r.map (lookupScore x)))) ≠ 0) :
    rsum ((btPdf x).map (·.2)) = 1 := by
  unfold btPdf
  simp only [List.map_map, Function.comp_def]
  exact C15_table_sums_to_one _ _ hZ

/-- **The slate-Bradley-Terry ballot-type table sums to one.** -/
theorem C15_slate_sum_one (a b : Nat) (c : Rat)
    (hZ : rsum ((slateTypes a b).map (fun t => powProd.rpowNat c (successes t) *
      powProd.rpowNat (1 - c) (a * b - successes t))) ≠ 0) :
    rsum ((slateBtPdf a b c).map (·.2)) = 1 := by
  unfold slateBtPdf
  simp only [List.map_map, Function.comp_def]
  exact C15_table_sums_to_one _ _ hZ

/-- Π_{i<j} (x_i + x_j) -/
def pairSumProd : List Rat → Rat
  | [] => 1
  | x :: xs => (xs.map (fun y => x + y)).prod * pairSumProd xs

/-- Π_{i<j} x_i / (x_i + x_j): the defining Bradley-Terry weight of a ranking -/
def pairProd : List Rat → Rat
  | [] => 1
  | x :: xs => (xs.map (fun y => x / (x + y))).prod * pairProd xs

/-- **The pair-sum product does not depend on the order.** -/
theorem C15_pairSumProd_perm {l l' : List Rat} (h : l.Perm l') : pairSumProd l = pairSumProd l' := by
  induction h with
  | nil => rfl
  | cons x _ ih =>
    rename_i l₁ l₂ hp
    simp only [pairSumProd, ih, (hp.map (fun y => x + y)).prod_eq]
  | swap x y l =>
    simp only [pairSumProd, List.map_cons, List.prod_cons]
    rw [add_comm y x]; ring
  | trans _ _ ih1 ih2 => rw [ih1, ih2]

theorem rpowNat_eq (x : Rat) (n : Nat) : powProd.rpowNat x n = x ^ n := by
  induction n with
  | zero => simp [powProd.rpowNat]
  | succ k ih => simp [powProd.rpowNat, ih, pow_succ, mul_comm]

theorem rpowNat_succ (x : Rat) (n : Nat) : powProd.rpowNat x (n + 1) = x * powProd.rpowNat x n := rfl

/-- `x^n` split over `n` partners `y`: each contributes `x/(x+y)` and `x+y` -/
theorem pow_length_eq_prod (x : Rat) (ys : List Rat) (h : ∀ y ∈ ys, x + y ≠ 0) :
    x ^ ys.length = (ys.map (fun y => x / (x + y))).prod * (ys.map (fun y => x + y)).prod := by
  induction ys with
  | nil => simp
  | cons y ys ih =>
    rw [List.length_cons, pow_succ, ih (fun z hz => h z (List.mem_cons_of_mem _ hz)), List.map_cons,
      List.map_cons, List.prod_cons, List.prod_cons, mul_mul_mul_comm,
      div_mul_cancel₀ _ (h y List.mem_cons_self), mul_comm]

/-- **Defining formula.** For positive supports, the code's numerator of a ranking is its pairwise
product `Π_{i<j} x_i/(x_i+x_j)` times the pair-sum product, and the latter is the same for every
ranking of the same candidates (`C15_pairSumProd_perm`). The step from here to `btPdf`, which normalises
`powProd` over all rankings, is not taken: no statement says that table is the normalised `pairProd`. -/
theorem C15_bt_table (l : List Rat) (hpos : ∀ x ∈ l, 0 < x) :
    powProd l = pairProd l * pairSumProd l := by
  induction l with
  | nil => simp [powProd, pairProd, pairSumProd]
  | cons x xs ih =>
    have hx : 0 < x := hpos x List.mem_cons_self
    have hxs : ∀ y ∈ xs, 0 < y := fun y hy => hpos y (List.mem_cons_of_mem _ hy)
    rw [powProd, pairProd, pairSumProd, ih hxs, rpowNat_eq,
      pow_length_eq_prod x xs (fun y hy => (add_pos hx (hxs y hy)).ne'), mul_mul_mul_comm]

/-- non-vacuity: supports 2,1,1 — the ranking (2,1,1) has numerator 2²·1 = 4 = (2/3·2/3·1/2)·(3·3·2) -/
example : powProd [2, 1, 1] = 4 ∧ pairProd [2, 1, 1] * pairSumProd [2, 1, 1] = 4 ∧
    pairSumProd [1, 2, 1] = pairSumProd [2, 1, 1] := by decide +kernel

/-- the entries `combine_preference_intervals` normalises: every interval scaled by its share -/
def scaledEntries (ivs : List Interval) (props : List Rat) : List (Cand × Rat) :=
  (ivs.zip props).flatMap (fun ip => ip.1.interval.map (fun cs => (cs.1, cs.2 * ip.2)))

/-- **The combined interval.** Every candidate's combined support is its own support times its
slate's share, divided by the total of all such products with a positive value; the result sums to
one and zero-valued products are set aside. -/
theorem C15_combine (ivs : List Interval) (props : List Rat) (iv : Interval)
    (h : combineIntervals ivs props = .ok iv) :
    iv.interval = ((scaledEntries ivs props).filter (fun cs => decide (0 < cs.2))).map
      (fun cs => (cs.1, cs.2 / rsum (((scaledEntries ivs props).filter (fun cs => decide (0 < cs.2))).map (·.2)))) ∧
    rsum (iv.interval.map (·.2)) = 1 := by
  unfold combineIntervals at h
  obtain ⟨r, hm, h⟩ := Outcome.bind_eq_ok.1 h
  cases h
  exact ⟨congrArg Interval.interval (mkInterval_ok _ r hm).2, (C15_normalize _ r hm).1⟩

/-- when every slate interval sums to one, the scaled entries add up to the shares: each slate
contributes exactly its share of the bloc's support before the final normalisation -/
theorem C15_scaled_total (ivs : List Interval) (props : List Rat) (hl : ivs.length = props.length)
    (h1 : ∀ iv ∈ ivs, rsum (iv.interval.map (·.2)) = 1) :
    rsum ((scaledEntries ivs props).map (·.2)) = rsum props := by
  unfold scaledEntries
  induction ivs generalizing props with
  | nil =>
    cases props with
    | nil => rfl
    | cons _ _ => cases hl
  | cons iv rest ih =>
    cases props with
    | nil => cases hl
    | cons q qs =>
      simp only [List.zip_cons_cons, List.flatMap_cons, List.map_append, rsum_append, List.map_map,
        Function.comp_def, rsum_cons]
      rw [ih qs (Nat.succ.inj hl) (fun iv' hiv' => h1 iv' (List.mem_cons_of_mem _ hiv')),
        rsum_map_mul_right, h1 iv List.mem_cons_self, one_mul]

end VK
