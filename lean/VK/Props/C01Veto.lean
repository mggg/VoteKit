/-
  C01 for PluralityVeto (Model/Veto.lean): whenever the rule returns a result — for every profile of
  ranked ballots over declared candidates (`decondense` floors the weights), every seat count, tiebreak,
  processing order and sample stream — it has elected EXACTLY m candidates, nobody before the last round, and
  at EVERY recorded round the remaining candidates, the winners so far and the candidates
  eliminated so far list each candidate exactly once.
  The rule does not always return (finding F-C01-f): `C01_veto_loops_at` is the kernel-checked
  witness of the endless loop, `C01_veto_terminates` (Props/C01VetoTerm.lean) the guard under which
  the loop is excluded.

  Each level of the rule gets its one-step equation — `vetoLoop_cons` (one voter), `pvRound_ok` (one
  round), `pvLoop_succ` (one turn of the loop, under the invariant `PvInv`), `pluralityVetoRun_eq` (the
  run up to the loop) — and the theorems about a level, here and in C01VetoTerm, argue from that alone.
-/
import VK.Model.Veto
import VK.Lemmas.Outcome
import VK.Props.C01
import VK.Props.C12
import VK.Lemmas.SortCands

namespace VK

theorem decScore_ok {c : Cand} {sc sc' : List (Cand × Rat)} {v : Rat} (h : decScore c sc = .ok (sc', v)) :
    ∃ l r, sc = l ++ (c, v + 1) :: r ∧ sc' = l ++ (c, v) :: r := by
  induction sc generalizing sc' with
  | nil => cases h
  | cons x rest ih =>
    obtain ⟨d, s⟩ := x
    rw [decScore] at h
    split at h
    · rename_i hd
      cases h
      exact ⟨[], rest, by rw [hd, sub_add_cancel]; rfl, by rw [hd]; rfl⟩
    · obtain ⟨⟨r, v'⟩, hr, h⟩ := Outcome.bind_eq_ok.1 h
      cases h
      obtain ⟨l, r', rfl, rfl⟩ := ih hr
      exact ⟨(d, s) :: l, r', rfl, rfl⟩

theorem decScore_keys {c : Cand} {sc sc' : List (Cand × Rat)} {v : Rat} (h : decScore c sc = .ok (sc', v)) :
    sc'.map (·.1) = sc.map (·.1) ∧ c ∈ sc.map (·.1) := by
  obtain ⟨l, r, rfl, rfl⟩ := decScore_ok h
  simp only [List.map_append, List.map_cons, List.mem_append, List.mem_cons, true_or, or_true, and_self]

theorem noFuel_breakGroupsS (smp : List (List Cand)) (r : Ranking) : NoFuel (breakGroupsS smp r) := by
  induction r generalizing smp with
  | nil => exact noFuel_ok _
  | cons g gs ih =>
    unfold breakGroupsS
    split
    · exact noFuel_bind _ _ (ih _) (fun _ => noFuel_pure _)
    · split
      · exact noFuel_mismatch
      · exact noFuel_bind _ _ (noFuel_orderBy _ _) (fun _ => noFuel_bind _ _ (ih _) (fun _ => noFuel_pure _))

theorem noFuel_tiebreakSetS (smp : List (List Cand)) (s : List Cand) (p : Profile) (tb : TB) :
    NoFuel (tiebreakSetS smp s p tb) := by
  unfold tiebreakSetS
  split
  · split
    · exact noFuel_mismatch
    · exact noFuel_bind _ _ (noFuel_orderBy _ _) (fun _ => noFuel_pure _)
  · simp only
    split
    · exact noFuel_bind _ _ (noFuel_scoreFromRankings _ _) (fun _ => noFuel_breakGroupsS _ _)
    · exact noFuel_bind _ _ (noFuel_scoreFromRankings _ _) (fun _ => noFuel_breakGroupsS _ _)

/-- does the ballot with index `bi` still rank somebody? -/
def liveAt (p : Profile) (bi : Nat) : Bool :=
  match p.ballots[bi]? with
  | some b => !b.ranking.isEmpty
  | none => false

/-- What the voter at the head of the processing order does: nothing, if the ballot ranks nobody any
more; otherwise one decrement, after which the pass stops or goes on; or the pass fails with an
exception or an oracle mismatch. Every fact about `vetoLoop` below is an induction over this. -/
theorem vetoLoop_cons {p : Profile} {tb : Option TB} {bi : Nat} {rest : List Nat} {i : Nat}
    {sc : List (Cand × Rat)} {smp : List (List Cand)} {tbs : List (List Cand × Ranking)}
    {r : Outcome VetoOut} (h : vetoLoop p tb (bi :: rest) i sc smp tbs = r) :
    (liveAt p bi = false ∧ r = vetoLoop p tb rest (i + 1) sc smp tbs) ∨
    (liveAt p bi = true ∧ ∃ least smp' tbs', r = do
      let (sc', v) ← decScore least sc
      if v ≤ 0 then pure ⟨some least, i, smp', tbs'⟩ else vetoLoop p tb rest (i + 1) sc' smp' tbs') ∨
    (∃ e, r = .raised e) ∨ r = .oracleMismatch := by
  unfold vetoLoop at h
  unfold liveAt
  split at h
  · exact .inr (.inr (.inr h.symm))
  rename_i b hb
  rw [hb]
  split at h
  · rename_i hl
    exact .inl ⟨by show (!b.ranking.isEmpty) = false; rw [List.getLast?_eq_none_iff.1 hl]; rfl, h.symm⟩
  rename_i lastPos hl
  have live : (!b.ranking.isEmpty) = true := by
    cases hr : b.ranking with
    | nil => rw [hr] at hl; cases hl
    | cons _ _ => rfl
  refine .inr ?_
  dsimp only at h
  -- `split` on this `if` is an order of magnitude slower
  by_cases hlen : lastPos.length > 1
  · rw [if_pos hlen] at h
    cases tb with
    | none => exact .inr (.inl ⟨_, h.symm⟩)
    | some t =>
      dsimp only at h
      cases ht : tiebreakSetS smp lastPos (tiebreakProfile p) t with
      | ok x =>
        rw [ht] at h
        dsimp only [bind, Outcome.bind] at h
        split at h
        · exact .inl ⟨live, _, _, _, h.symm⟩
        · exact .inr (.inr h.symm)
      | raised e => rw [ht] at h; exact .inr (.inl ⟨e, h.symm⟩)
      | oracleMismatch => rw [ht] at h; exact .inr (.inr h.symm)
      | outOfFuel => exact absurd ht (noFuel_tiebreakSetS _ _ _ _)
  · rw [if_neg hlen] at h
    split at h
    · exact .inl ⟨live, _, _, _, h.symm⟩
    · exact .inr (.inl ⟨_, h.symm⟩)

theorem vetoLoop_struck (p : Profile) (tb : Option TB) (order : List Nat) (i : Nat)
    (sc : List (Cand × Rat)) (smp : List (List Cand)) (tbs : List (List Cand × Ranking))
    (out : VetoOut) (c : Cand)
    (h : vetoLoop p tb order i sc smp tbs = .ok out) (hc : out.struck = some c) :
    c ∈ sc.map (·.1) := by
  induction order generalizing i sc smp tbs with
  | nil => cases i <;> cases h; cases hc
  | cons bi rest ih =>
    rcases vetoLoop_cons h with ⟨_, h⟩ | ⟨_, least, smp', tbs', h⟩ | ⟨e, h⟩ | h
    · exact ih _ _ _ _ h.symm
    · obtain ⟨⟨sc', v⟩, hd, h⟩ := Outcome.bind_eq_ok.1 h.symm
      dsimp only at h
      split at h
      · cases h; cases hc; exact (decScore_keys hd).2
      · exact (decScore_keys hd).1 ▸ ih _ _ _ _ h
    · cases h
    · cases h

/-- `c` stands in the first position of ballot `b` -/
def AtTop (c : Cand) (b : Ballot) : Prop := ∃ hd tl, b.ranking = hd :: tl ∧ c ∈ hd

theorem scrub_atTop (removed : List Cand) (b : Ballot) (c : Cand) (h : AtTop c b)
    (hc : removed.contains c = false) :
    AtTop c (scrubBallot removed b) ∧ (scrubBallot removed b).weight = b.weight := by
  obtain ⟨hd, tl, hr, hmem⟩ := h
  have hf : c ∈ hd.filter (fun c => !removed.contains c) := List.mem_filter.2 ⟨hmem, by rw [hc]; rfl⟩
  have hs : (scrubBallot removed b).ranking =
      hd.filter (fun c => !removed.contains c) :: scrubRanking removed tl := by
    rw [scrubBallot_ranking, hr]
    unfold scrubRanking
    rw [List.map_cons, List.filter_cons, if_pos]
    cases hx : hd.filter (fun c => !removed.contains c) with
    | nil => rw [hx] at hf; cases hf
    | cons _ _ => rfl
  exact ⟨⟨_, _, hs, hf⟩, scrubBallot_weight (by rw [hs]; exact List.cons_ne_nil _ _)⟩

/-- a positive first-place tally needs a ballot with the candidate in its first position -/
theorem fpv_pos_atTop (q : Profile) (sc : List (Cand × Rat)) (h : firstPlaceVotes q = .ok sc)
    (hne : ∀ b ∈ q.ballots, b.ranking ≠ [])
    (hpos : ∀ b ∈ q.ballots, ∀ s ∈ b.ranking, s ≠ [])
    (c : Cand) (s : Rat) (hcs : (c, s) ∈ sc) (hs : 0 < s) : ∃ b ∈ q.ballots, AtTop c b := by
  by_contra hno
  have hspec := C04_score_spec q (fpvVector q.cands.length) sc h
  rw [padVector_fpv] at hspec
  rw [hspec] at hcs
  obtain ⟨c', _, heq⟩ := List.mem_map.1 hcs
  cases heq
  -- no ballot has `c` on top, so every ballot gives it nothing
  refine lt_irrefl (0 : Rat) (hs.trans_eq (rsum_zeros _ ?_))
  intro x hx
  obtain ⟨b, hb, rfl⟩ := List.mem_map.1 hx
  cases hr : b.ranking with
  | nil => exact absurd hr (hne b hb)
  | cons hd tl =>
    have hnot : c ∉ hd := fun hm => hno ⟨b, hb, hd, tl, hr, hm⟩
    obtain ⟨tl', htl'⟩ : ∃ tl', (addMissingBallot q.cands b).ranking = hd :: tl' := by
      unfold addMissingBallot
      rw [hr]
      dsimp only
      split
      · exact ⟨tl, rfl⟩
      · exact ⟨_, rfl⟩
    rw [htl', ballotPoints_fpv_cons _ hd tl' c (hpos b hb hd (hr ▸ List.mem_cons_self)),
      if_neg (by simpa using hnot), zero_mul]

structure PvWF (p : Profile) : Prop where
  nodup : p.cands.Nodup
  cast : ∀ b ∈ p.ballots, ∀ c ∈ b.ranking.flatten, c ∈ p.cands
  pos : ∀ b ∈ p.ballots, ∀ s ∈ b.ranking, s ≠ []
  wpos : ∀ b ∈ p.ballots, b.ranking ≠ [] → 0 < b.weight
  noscores : ∀ b ∈ p.ballots, b.scores = []

theorem removeCand_veto_ballots (removed : List Cand) (p : Profile) :
    (removeCand removed p (cond := false) (leaveZero := true)).ballots = p.ballots.map (scrubBallot removed) := by
  simp [removeCand, removeCandBallots, scrubBallots]

theorem removeCand_veto_cands (removed : List Cand) (p : Profile) :
    (removeCand removed p (cond := false) (leaveZero := true)).cands =
      p.cands.filter (fun c => !removed.contains c) := rfl

theorem pvWF_remove (removed : List Cand) (p : Profile) (h : PvWF p) :
    PvWF (removeCand removed p (cond := false) (leaveZero := true)) := by
  refine ⟨?_, ?_, ?_, ?_, ?_⟩
  · rw [removeCand_veto_cands]; exact h.nodup.filter _
  all_goals
    intro b' hb'
    rw [removeCand_veto_ballots] at hb'
    obtain ⟨b, hb, rfl⟩ := List.mem_map.1 hb'
  · intro c hc
    rw [scrubBallot_ranking, C12_order] at hc
    exact List.mem_filter.2 ⟨h.cast b hb c (List.mem_filter.1 hc).1, (List.mem_filter.1 hc).2⟩
  · intro s hs
    rw [scrubBallot_ranking] at hs
    exact (scrubRanking_positions removed b.ranking s hs).1
  · intro hne
    rw [scrubBallot_weight hne]
    exact h.wpos b hb (fun e => hne (by rw [scrubBallot_ranking, e, scrubRanking_nil]))
  · rw [scrubBallot_scores, h.noscores b hb]; rfl

/-- the candidates found on the ballots that still rank somebody (the keys of the next tallies) -/
theorem mem_scoreProfile_cands {p : Profile} (h : PvWF p) {c : Cand} :
    c ∈ (scoreProfile p).cands ↔ ∃ b ∈ p.ballots, c ∈ b.ranking.flatten := by
  show c ∈ sortCands _ ↔ _
  rw [mem_sortCands]
  simp only [List.mem_flatMap, List.mem_filter, decide_eq_true_eq, Bool.not_eq_true']
  constructor
  · rintro ⟨b, ⟨⟨hb, _⟩, _⟩, hc⟩
    unfold Ballot.cands at hc
    rw [h.noscores b hb, List.map_nil, List.append_nil] at hc
    exact ⟨b, hb, hc⟩
  · rintro ⟨b, hb, hc⟩
    have hne : b.ranking ≠ [] := fun e => by rw [e] at hc; cases hc
    exact ⟨b, ⟨⟨hb, by cases hr : b.ranking with | nil => exact absurd hr hne | cons _ _ => rfl⟩,
      h.wpos b hb hne⟩, List.mem_append_left _ hc⟩

/-- every surviving candidate heads some ballot ⇒ the candidates found on the ballots that still
rank somebody are exactly the surviving candidates -/
theorem candsCast_scoreProfile (p : Profile) (h : PvWF p)
    (htop : ∀ c ∈ p.cands, ∃ b ∈ p.ballots, AtTop c b) :
    (scoreProfile p).cands.Perm p.cands := by
  apply (List.perm_ext_iff_of_nodup (sortCands_nodup _) h.nodup).2
  intro c
  refine (mem_scoreProfile_cands h).trans ⟨?_, ?_⟩
  · rintro ⟨b, hb, hc⟩
    exact h.cast b hb c hc
  · intro hc
    obtain ⟨b, hb, hd, tl, hr, hm⟩ := htop c hc
    exact ⟨b, hb, by rw [hr]; exact List.mem_append_left _ hm⟩

/-- `st` is the mutable election object, `prev` the last recorded round, `acc` the rounds recorded so
far, newest first -/
structure PvInv (cands : List Cand) (st : PVState) (prev : RoundState) (acc : List RoundState) : Prop where
  wf : PvWF st.prof
  part : (st.prof.cands ++ eliminatedIn acc).Perm cands
  noelect : electedIn acc = []
  elim : st.elim.Perm (eliminatedIn acc)
  head : ∃ older, acc = prev :: older
  keys : ∀ c ∈ prev.scores.map (·.1), c ∈ st.prof.cands
  first : prev.round = 0 → firstPlaceVotes st.prof = .ok prev.scores ∧ ∀ b ∈ st.prof.ballots, b.ranking ≠ []
  later : prev.round ≠ 0 → ∀ c ∈ st.prof.cands, ∃ b ∈ st.prof.ballots, AtTop c b
  good : Good cands acc

/-- the candidates dropped in round 1 for having no first-place vote -/
def zeroOf (prev : RoundState) : List Cand :=
  if prev.round = 0 then (prev.scores.filter (fun cs => cs.2 ≤ 0)).map (·.1) else []

theorem zeroOf_first {prev : RoundState} (h0 : prev.round = 0) :
    zeroOf prev = (prev.scores.filter (fun cs => cs.2 ≤ 0)).map (·.1) := if_pos h0

theorem zeroOf_later {prev : RoundState} (h0 : prev.round ≠ 0) : zeroOf prev = [] := if_neg h0

theorem mem_zeroOf {prev : RoundState} {c : Cand} :
    c ∈ zeroOf prev ↔ prev.round = 0 ∧ ∃ s, s ≤ 0 ∧ (c, s) ∈ prev.scores := by
  by_cases h0 : prev.round = 0
  · rw [zeroOf_first h0]
    simp only [List.mem_map, List.mem_filter, decide_eq_true_eq, h0, true_and]
    constructor
    · rintro ⟨⟨c, s⟩, ⟨h1, h2⟩, rfl⟩; exact ⟨s, h2, h1⟩
    · rintro ⟨s, h2, h1⟩; exact ⟨(c, s), ⟨h1, h2⟩, rfl⟩
  · rw [zeroOf_later h0]
    exact ⟨fun h => (nomatch h), fun h => absurd h.1 h0⟩

/-- the state recorded for an elimination round -/
@[reducible] def pvRecord (prev : RoundState) (elimNow : List Cand) (tbs : List (List Cand × Ranking))
    (sc : List (Cand × Rat)) : RoundState :=
  { round := prev.round + 1, remaining := scoreToRanking sc, elected := [],
    eliminated := (if (sortCands elimNow).isEmpty then [] else [sortCands elimNow]),
    tiebreaks := tbs, scores := sc }

theorem flatten_ite_isEmpty (l : List Cand) : (if l.isEmpty then ([] : Ranking) else [l]).flatten = l := by
  cases l <;> simp

/-- every standing candidate heads a ballot, except, before round 1, those without a first-place vote -/
theorem PvInv.top {cands : List Cand} {st : PVState} {prev : RoundState} {acc : List RoundState}
    (inv : PvInv cands st prev acc) {c : Cand} (hc : c ∈ st.prof.cands) (hz : c ∉ zeroOf prev) :
    ∃ b ∈ st.prof.ballots, AtTop c b := by
  by_cases hr : prev.round = 0
  · obtain ⟨hfpv, hne⟩ := inv.first hr
    have hcmem : c ∈ prev.scores.map (·.1) := by rw [scoreFromRankings_keys _ _ _ hfpv]; exact hc
    obtain ⟨⟨c, s⟩, hcs, rfl⟩ := List.mem_map.1 hcmem
    have hpos : 0 < s := lt_of_not_ge (fun hle => hz (mem_zeroOf.2 ⟨hr, s, hle, hcs⟩))
    exact fpv_pos_atTop st.prof prev.scores hfpv hne inv.wf.pos c s hcs hpos
  · exact inv.later hr c hc

/-- once the zero-tally candidates of round 1 are among the removed, every survivor heads a ballot -/
theorem PvInv.top_remove {cands : List Cand} {st : PVState} {prev : RoundState} {acc : List RoundState}
    (inv : PvInv cands st prev acc) {removed : List Cand} (hz : ∀ c ∈ zeroOf prev, c ∈ removed) :
    ∀ c ∈ (removeCand removed st.prof (cond := false) (leaveZero := true)).cands,
      ∃ b ∈ (removeCand removed st.prof (cond := false) (leaveZero := true)).ballots, AtTop c b := by
  intro c hc
  rw [removeCand_veto_cands] at hc
  obtain ⟨hc1, hc2⟩ := List.mem_filter.1 hc
  have hc2' : removed.contains c = false := (Bool.not_eq_true' _).mp hc2
  obtain ⟨b, hb, hat⟩ := inv.top hc1
    fun hzz => Bool.false_ne_true (hc2'.symm.trans (List.contains_iff_mem.2 (hz c hzz)))
  rw [removeCand_veto_ballots]
  exact ⟨scrubBallot removed b, List.mem_map.2 ⟨b, hb, rfl⟩, (scrub_atTop removed b c hat hc2').1⟩

/-- a successful round, spelled out: the pass returned `out`, the zero-tally candidates of round 1 and
the struck candidate are removed, the survivors re-tallied -/
theorem pvRound_ok {tb : Option TB} {st st' : PVState} {prev s : RoundState}
    (h : pvRound tb st prev = .ok (st', s)) :
    ∃ out sc elimNow, vetoLoop st.prof tb st.order 0 prev.scores st.samples [] = .ok out ∧
      elimNow = zeroOf prev ++ out.struck.toList ∧
      firstPlaceVotes (scoreProfile (removeCand elimNow st.prof (cond := false) (leaveZero := true))) = .ok sc ∧
      st' = { prof := removeCand elimNow st.prof (cond := false) (leaveZero := true),
              order := st.order.drop (out.index + 1) ++ st.order.take (out.index + 1),
              elim := sortCands (st.elim ++ elimNow), samples := out.samples } ∧
      s = pvRecord prev elimNow out.tiebreaks sc := by
  unfold pvRound at h
  obtain ⟨⟨struck, index, smp', tbs'⟩, hv, h⟩ := Outcome.bind_eq_ok.1 h
  obtain ⟨sc, hf, h⟩ := Outcome.bind_eq_ok.1 h
  cases h
  cases struck with
  | none => exact ⟨_, sc, _, hv, (List.append_nil _).symm, hf, rfl, rfl⟩
  | some c => exact ⟨_, sc, _, hv, rfl, hf, rfl, rfl⟩

theorem pvRound_inv (cands : List Cand) (hcn : cands.Nodup) (tb : Option TB) (st st' : PVState)
    (prev s : RoundState) (acc : List RoundState) (inv : PvInv cands st prev acc)
    (h : pvRound tb st prev = .ok (st', s)) : PvInv cands st' s (s :: acc) := by
  obtain ⟨out, sc, elimNow, hv, hel, hf, rfl, rfl⟩ := pvRound_ok h
  -- all that matters of `elimNow`: standing candidates, among them the zero-tally ones of round 1
  have hz : ∀ c ∈ zeroOf prev, c ∈ elimNow := fun c hc => hel ▸ List.mem_append_left _ hc
  have hesub : ∀ c ∈ elimNow, c ∈ st.prof.cands := by
    intro c hc
    rcases List.mem_append.1 (hel ▸ hc) with h1 | h1
    · obtain ⟨_, s, _, hcs⟩ := mem_zeroOf.1 h1
      exact inv.keys _ (List.mem_map.2 ⟨_, hcs, rfl⟩)
    · exact inv.keys _ (vetoLoop_struck _ _ _ _ _ _ _ out c hv (Option.mem_toList.1 h1))
  clear hel hv
  generalize hp' : removeCand elimNow st.prof (cond := false) (leaveZero := true) = p' at hf ⊢
  have hsplit : (p'.cands ++ sortCands elimNow).Perm st.prof.cands := by
    rw [← hp', removeCand_veto_cands, filter_contains_sortCands]
    exact filter_not_contains_perm _ _ inv.wf.nodup (sortCands_nodup _)
      (fun c hc => hesub c ((mem_sortCands c elimNow).1 hc))
  have hwf' : PvWF p' := hp' ▸ pvWF_remove elimNow st.prof inv.wf
  have htop' : ∀ c ∈ p'.cands, ∃ b ∈ p'.ballots, AtTop c b := hp' ▸ inv.top_remove hz
  -- hence the candidates found on the ballots, which key the new tallies, are the survivors
  have hcast' : (scoreProfile p').cands.Perm p'.cands := candsCast_scoreProfile p' hwf' htop'
  have hkeys' : sc.map (·.1) = (scoreProfile p').cands := scoreFromRankings_keys _ _ _ hf
  have hrem : (scoreToRanking sc).flatten.Perm p'.cands := hkeys' ▸ (scoreToRanking_perm sc) |>.trans hcast'
  have helimIn : eliminatedIn (pvRecord prev elimNow out.tiebreaks sc :: acc)
      = sortCands elimNow ++ eliminatedIn acc := by
    rw [eliminatedIn_cons, flatten_ite_isEmpty]
  have helectIn : electedIn (pvRecord prev elimNow out.tiebreaks sc :: acc) = [] := by
    rw [electedIn_cons]; exact inv.noelect
  have hpart' : (p'.cands ++ eliminatedIn (pvRecord prev elimNow out.tiebreaks sc :: acc)).Perm cands := by
    rw [helimIn, ← List.append_assoc]
    exact (List.Perm.append_right _ hsplit).trans inv.part
  refine ⟨hwf', hpart', helectIn, ?_, ⟨acc, rfl⟩, ?_, fun h0 => absurd h0 (Nat.succ_ne_zero _),
    fun _ => htop', ⟨?_, inv.good⟩⟩
  · -- the running set of eliminated candidates
    have hnd := (List.nodup_append.1 (hpart'.nodup_iff.2 hcn)).2.1
    apply (List.perm_ext_iff_of_nodup (sortCands_nodup _) hnd).2
    intro c
    simp only [helimIn, mem_sortCands, List.mem_append, inv.elim.mem_iff]
    exact Or.comm
  · intro c hc
    exact hcast'.mem_iff.1 (hkeys' ▸ hc)
  · rw [helectIn, List.append_nil]
    exact (List.Perm.append_right _ hrem).trans hpart'

/-- the last round, in which everybody still standing is elected -/
@[reducible] def pvFinal (prev : RoundState) : RoundState := { round := prev.round + 1, elected := prev.remaining }

section
variable {cands : List Cand} {st : PVState} {prev : RoundState} {acc : List RoundState}
  (inv : PvInv cands st prev acc)
include inv

theorem PvInv.standing : st.prof.cands.length + st.elim.length = cands.length := by
  rw [inv.elim.length_eq, ← List.length_append]
  exact inv.part.length_eq

theorem PvInv.final :
    Good cands (pvFinal prev :: acc) ∧ (electedIn (pvFinal prev :: acc)).length = st.prof.cands.length := by
  obtain ⟨older, hacc⟩ := inv.head
  have hperm : (prev.remaining.flatten ++ eliminatedIn acc).Perm cands := by
    have h := inv.good
    rw [hacc, Good_cons, ← hacc, inv.noelect, List.append_nil] at h
    exact h.1
  have hE : electedIn (pvFinal prev :: acc) = prev.remaining.flatten := by
    rw [electedIn_cons, inv.noelect, List.append_nil]
  refine ⟨⟨?_, inv.good⟩, ?_⟩
  · rw [hE, eliminatedIn_cons]; exact hperm
  · have h1 := hperm.length_eq
    have h2 := inv.part.length_eq
    rw [List.length_append] at h1 h2
    rw [hE]; omega

/-- Under the invariant the body of the loop is: if as many stand as there are seats, record the last
round and return; otherwise run one round and go on. The model's test `n - #eliminated = m` counts the
standing candidates (`PvInv.standing`), and its third branch — the last round elected fewer than `m`,
so go round again, for ever — is dead: the last round elects exactly those who stand (`PvInv.final`). -/
theorem pvLoop_succ (m : Nat) (tb : Option TB) (fuel : Nat) :
    pvLoop m tb cands.length (fuel + 1) st prev acc =
      if st.prof.cands.length = m then
        if st.samples.isEmpty then .ok (pvFinal prev :: acc).reverse else .oracleMismatch
      else pvRound tb st prev >>= fun x => pvLoop m tb cands.length fuel x.1 x.2 (x.2 :: acc) := by
  rw [pvLoop, Nat.sub_eq_of_eq_add inv.standing.symm]
  by_cases hm : st.prof.cands.length = m
  · have : (electedOf (pvFinal prev :: acc)).length ≥ m := le_of_eq (hm ▸ inv.final.2).symm
    rw [if_pos hm, if_pos hm]
    exact if_pos this
  · rw [if_neg hm, if_neg hm]

end

/-- Whatever the loop returns has elected exactly `m` candidates, all of them in the last
round, and every recorded round partitions the candidates. -/
theorem pvLoop_spec (cands : List Cand) (hcn : cands.Nodup) (m : Nat) (tb : Option TB) (fuel : Nat)
    (st : PVState) (prev : RoundState) (acc : List RoundState) (states : States)
    (inv : PvInv cands st prev acc)
    (h : pvLoop m tb cands.length fuel st prev acc = .ok states) :
    Good cands states.reverse ∧ (electedOf states).length = m ∧
      ∃ fin older, states.reverse = fin :: older ∧ electedIn older = [] := by
  induction fuel generalizing st prev acc with
  | zero => cases h
  | succ fuel ih =>
    rw [pvLoop_succ inv] at h
    by_cases hm : st.prof.cands.length = m
    · rw [if_pos hm] at h
      split at h
      · cases h
        rw [List.reverse_reverse]
        exact ⟨inv.final.1, (electedIn_reverse_length _).trans (inv.final.2.trans hm),
          _, acc, rfl, inv.noelect⟩
      · cases h
    · rw [if_neg hm] at h
      obtain ⟨⟨st', s⟩, hr, h⟩ := Outcome.bind_eq_ok.1 h
      exact ih st' s (s :: acc) (pvRound_inv cands hcn tb st st' prev s acc inv hr) h

theorem mem_decondense (bs : List Ballot) (b' : Ballot) (h : b' ∈ decondense bs) :
    ∃ b ∈ bs, b'.ranking = b.ranking ∧ b'.weight = 1 ∧ b'.scores = [] := by
  unfold decondense at h
  obtain ⟨b, hb, hm⟩ := List.mem_flatMap.1 h
  have := (List.mem_replicate.1 hm).2
  exact ⟨b, hb, by rw [this], by rw [this], by rw [this]⟩

theorem pvWF_decondense {p : Profile} (hn : p.cands.Nodup)
    (hcast : ∀ b ∈ p.ballots, ∀ c ∈ b.ranking.flatten, c ∈ p.cands)
    (hpos : ∀ b ∈ p.ballots, ∀ s ∈ b.ranking, s ≠ []) :
    PvWF { ballots := decondense p.ballots, cands := p.cands } := by
  refine ⟨hn, ?_, ?_, ?_, ?_⟩
  all_goals
    intro b' hb'
    obtain ⟨b, hb, hr, hw, hs⟩ := mem_decondense _ b' hb'
  · rw [hr]; exact hcast b hb
  · rw [hr]; exact hpos b hb
  · intro _; rw [hw]; exact one_pos
  · exact hs

/-- the invariant holds when the loop is entered: nothing eliminated, round 0 recorded with the
first-place tallies of a well-formed profile in which every ballot ranks somebody -/
theorem pvInv_init {p0 : Profile} {sc0 : List (Cand × Rat)} (wf : PvWF p0)
    (hne : ∀ b ∈ p0.ballots, b.ranking ≠ []) (hf : firstPlaceVotes p0 = .ok sc0)
    (order : List Nat) (samples : List (List Cand)) :
    PvInv p0.cands { prof := p0, order := order, elim := [], samples := samples }
      (initialState p0.cands (some sc0)) [initialState p0.cands (some sc0)] := by
  have hkeys : sc0.map (·.1) = p0.cands := scoreFromRankings_keys p0 _ _ hf
  have hrem : (scoreToRanking sc0).flatten.Perm p0.cands := hkeys ▸ scoreToRanking_perm sc0
  refine ⟨wf, ?_, rfl, .refl _, ⟨[], rfl⟩, fun c hc => hkeys ▸ hc, fun _ => ⟨hf, hne⟩,
    fun h0 => absurd rfl h0, ⟨?_, trivial⟩⟩
  · exact (List.append_nil _).symm ▸ .refl _
  · exact (List.append_nil _).symm ▸ (List.append_nil _).symm ▸ hrem

theorem pluralityVetoValidate_cases (p : Profile) (m : Int) (tb : Option TB) :
    (∃ e, pluralityVetoValidate p m tb = .raised e) ∨
    (pluralityVetoValidate p m tb = .ok () ∧
      (∀ b ∈ p.ballots, b.ranking ≠ []) ∧ 0 < m ∧ m ≤ p.cands.length) := by
  unfold pluralityVetoValidate
  by_cases hany : (p.ballots.any fun b => b.ranking.isEmpty) = true
  · rw [if_pos hany]; exact .inl ⟨_, rfl⟩
  rw [if_neg hany]
  split
  · exact .inl ⟨_, rfl⟩
  by_cases hm : (decide (m ≤ 0) || decide (m > p.cands.length)) = true
  · rw [if_pos hm]; exact .inl ⟨_, rfl⟩
  rw [if_neg hm]
  split
  · exact .inl ⟨_, rfl⟩
  · refine .inr ⟨rfl, fun b hb e => hany (List.any_eq_true.2 ⟨b, hb, by rw [e]; rfl⟩), ?_⟩
    simpa only [Bool.or_eq_true, decide_eq_true_eq, not_or, not_le, not_lt] using hm

/-- The run fails before the loop with an exception or an oracle mismatch, or it is the loop started on
the decondensed profile with its first-place tallies. -/
theorem pluralityVetoRun_eq {p : Profile} {m : Int} {tb : Option TB} {ω : PVOracle} {r : Outcome States}
    (h : pluralityVetoRun p m tb ω = r) :
    ((∃ e, r = .raised e) ∨ r = .oracleMismatch) ∨
    ∃ sc0, (∀ b' ∈ decondense p.ballots, b'.ranking ≠ []) ∧ 0 < m ∧ m ≤ p.cands.length ∧
      isPermOfRange ω.order (decondense p.ballots).length = true ∧
      firstPlaceVotes { ballots := decondense p.ballots, cands := p.cands } = .ok sc0 ∧
      r = pvLoop m.toNat tb p.cands.length (p.cands.length + 2)
        { prof := { ballots := decondense p.ballots, cands := p.cands }, order := ω.order, elim := [],
          samples := ω.samples }
        (initialState p.cands (some sc0)) [initialState p.cands (some sc0)] := by
  subst h
  unfold pluralityVetoRun
  rcases pluralityVetoValidate_cases p m tb with ⟨e, hv⟩ | ⟨hv, hne, hm0, hmn⟩ <;> rw [hv]
  · exact .inl (.inl ⟨e, rfl⟩)
  have hall : ∀ b' ∈ decondense p.ballots, b'.ranking ≠ [] := by
    intro b' hb'
    obtain ⟨b, hb, hr, _⟩ := mem_decondense _ b' hb'
    exact hr ▸ hne b hb
  dsimp only [bind, Outcome.bind]
  cases hperm : isPermOfRange ω.order (decondense p.ballots).length with
  | false => exact .inl (.inr rfl)
  | true =>
    cases hf : firstPlaceVotes { ballots := decondense p.ballots, cands := p.cands } with
    | ok sc0 => exact .inr ⟨sc0, hall, hm0, hmn, rfl, rfl, rfl⟩
    | raised e => exact .inl (.inl ⟨e, rfl⟩)
    | oracleMismatch => exact .inl (.inr rfl)
    | outOfFuel => exact absurd hf (noFuel_scoreFromRankings _ _)

/-- **C01 for PluralityVeto.** For every profile with a duplicate-free candidate list whose ballots
mention only declared candidates and have no empty position, every seat count, tiebreak, processing
order and sample stream: if the rule returns, it has elected exactly `m` candidates, all in its last
round, and at every recorded round the remaining candidates, the winners so far and the candidates
eliminated so far list each candidate exactly once. -/
theorem C01_veto_exactly_m_and_partition (p : Profile) (m : Int) (tb : Option TB) (ω : PVOracle) (states : States)
    (hn : p.cands.Nodup)
    (hcast : ∀ b ∈ p.ballots, ∀ c ∈ b.ranking.flatten, c ∈ p.cands)
    (hpos : ∀ b ∈ p.ballots, ∀ s ∈ b.ranking, s ≠ [])
    (h : pluralityVetoRun p m tb ω = .ok states) :
    ((electedOf states).length : Int) = m ∧ Good p.cands states.reverse ∧
      ∃ fin older, states.reverse = fin :: older ∧ electedIn older = [] := by
  rcases pluralityVetoRun_eq h with (⟨e, he⟩ | he) | ⟨sc0, hall, hm0, _, _, hf, hrun⟩
  · cases he
  · cases he
  · obtain ⟨hg, hc, hlast⟩ := pvLoop_spec p.cands hn m.toNat tb _ _ _ _ states
      (pvInv_init (pvWF_decondense hn hcast hpos) hall hf _ _) hrun.symm
    exact ⟨hc ▸ Int.toNat_of_nonneg hm0.le, hg, hlast⟩

/-- A>B>C x2, B>A>C x1, C>B>A x1 over A,B,C: everybody has a first-place vote -/
def vetoProfile : Profile :=
  { ballots := [{ ranking := [[0], [1], [2]], weight := 2 }, { ranking := [[1], [0], [2]], weight := 1 },
                { ranking := [[2], [1], [0]], weight := 1 }],
    cands := [0, 1, 2] }

/-- non-vacuity: a run that returns a result -/
example : (pluralityVetoRun vetoProfile 1 none { order := [2, 0, 3, 1] }).isOk = true := by decide +kernel

/-- A>B>C x3 with two seats: B and C have no first-place vote, round 1 drops both and the veto of the
first voter cannot strike anybody else; one candidate is left for two seats and the loop never ends
(the model runs out of fuel; the implementation is stopped by the CPU-time alarm) -/
theorem C01_veto_loops_at :
    pluralityVetoRun { ballots := [{ ranking := [[0], [1], [2]], weight := 3 }], cands := [0, 1, 2] } 2 none
      { order := [0, 1, 2] } = .outOfFuel := by decide +kernel

end VK
