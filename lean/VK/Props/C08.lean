/-
  Property C08 — outcomes are neutral, anonymous and independent of representation. Three families of theorems:
  two ballot lists that represent the same profile (reordered, merged, split: scores, margins and the STV family
  here, the other rules in `C08Rep*`); an injective renaming of the candidates (points and margins here, the rules
  in `C08Neutral*`); the same candidates declared in another order (`C08CandOrder*`).
  Hash-seed independence cannot be exhibited by a model; it is carried by the multi-interpreter replay.
-/
import VK.Lemmas.Rescore
import VK.Lemmas.Rename
import VK.Model.Pairwise
import Mathlib.Algebra.BigOperators.Group.List.Lemmas

namespace VK

/-- Anonymity: reordering the ballots does not change any positional score. -/
theorem C08_scores_perm_invariant (cands : List Cand) (bs bs' : List Ballot) (v : List Rat)
    (hperm : bs.Perm bs') (hv : validVector v = true) (hr : ∀ b ∈ bs, b.ranking ≠ []) :
    scoreFromRankings { ballots := bs, cands := cands } v = scoreFromRankings { ballots := bs', cands := cands } v :=
  scoreFromRankings_congr cands bs bs' v hv hr (fun b hb => hr b (hperm.symm.subset hb)) fun _ =>
    rsum_map_perm hperm _

/-- Merging identical ballots (condensing) does not change any positional score. -/
theorem C08_scores_condense_invariant (cands : List Cand) (bs : List Ballot) (v : List Rat)
    (hv : validVector v = true) (hr : ∀ b ∈ bs, b.ranking ≠ []) :
    scoreFromRankings { ballots := condense bs, cands := cands } v =
      scoreFromRankings { ballots := bs, cands := cands } v := by
  refine scoreFromRankings_congr cands _ bs v hv (fun b hb => ?_) hr fun g => sum_condense (fun k => g k.1) bs
  obtain ⟨b0, hb0, e, _⟩ := mem_condense_ranking bs b hb
  rw [← e]
  exact hr b0 hb0

/-- Splitting a ballot into identical ballots whose weights add up does not change any positional score. -/
theorem C08_scores_split_invariant (cands : List Cand) (b : Ballot) (w₁ w₂ : Rat) (rest : List Ballot)
    (v : List Rat) (hv : validVector v = true) (hw : w₁ + w₂ = b.weight)
    (hr : ∀ x ∈ b :: rest, x.ranking ≠ []) :
    scoreFromRankings { ballots := { b with weight := w₁ } :: { b with weight := w₂ } :: rest, cands := cands } v =
      scoreFromRankings { ballots := b :: rest, cands := cands } v := by
  obtain ⟨hb, hrest⟩ := List.forall_mem_cons.1 hr
  refine scoreFromRankings_congr cands _ _ v hv
    (List.forall_mem_cons.2 ⟨hb, List.forall_mem_cons.2 ⟨hb, hrest⟩⟩) hr fun g => ?_
  simp only [List.map_cons, rsum_cons]
  rw [← hw]; ring

/-- Neutrality of the points a ballot hands out: renaming the candidates by an injective map renames the
recipients and changes nothing else. -/
theorem C08_points_equivariant (π : Cand → Cand) (hπ : Function.Injective π) (v : List Rat) (r : Ranking)
    (c : Cand) : ballotPoints v (r.map (List.map π)) (π c) = ballotPoints v r c :=
  ballotPoints_ren π hπ v r c

theorem posOf_map (π : Cand → Cand) (hπ : Function.Injective π) (r : List Cand) (c : Cand) :
    posOf (r.map π) (π c) = posOf r c := by
  have : ((fun x => decide (x = π c)) ∘ π) = fun x => decide (x = c) :=
    funext fun x => by simp only [Function.comp, hπ.eq_iff]
  simp only [posOf, List.length_map, List.findIdx_map, this]

theorem posOfR_map (π : Cand → Cand) (hπ : Function.Injective π) (r : Ranking) (c : Cand) :
    posOfR (r.map (List.map π)) (π c) = posOfR r c := by
  have : ((fun s : List Cand => s.contains (π c)) ∘ List.map π) = fun s => s.contains c :=
    funext fun s => contains_map_inj π hπ s c
  simp only [posOfR, List.length_map, List.findIdx_map, this]

theorem prefShareR_map (π : Cand → Cand) (hπ : Function.Injective π) (r : Ranking) (x y : Cand) :
    prefShareR (r.map (List.map π)) (π x) (π y) = prefShareR r x y := by
  unfold prefShareR
  rw [posOfR_map π hπ, posOfR_map π hπ]

/-- head-to-head margins look at the rankings and the weights only -/
theorem margin_map (π : Cand → Cand) (hπ : Function.Injective π) (f : Ballot → Ballot)
    (hr : ∀ bl, (f bl).ranking = bl.ranking.map (List.map π)) (hw : ∀ bl, (f bl).weight = bl.weight)
    (bs : List Ballot) (c c' : List Cand) (a b : Cand) :
    margin { ballots := bs.map f, cands := c' } (π a) (π b) = margin { ballots := bs, cands := c } a b := by
  simp only [margin, h2h, List.map_map, Function.comp_def, hr, hw, prefShareR_map π hπ]

/-- Head-to-head margins are equivariant under renaming (tied positions included). -/
theorem C08_margin_equivariant (π : Cand → Cand) (hπ : Function.Injective π) (p : Profile) (a b : Cand) :
    margin { ballots := p.ballots.map (fun bl => { bl with ranking := bl.ranking.map (List.map π) }),
             cands := p.cands.map π } (π a) (π b) = margin p a b :=
  margin_map π hπ (fun bl => { bl with ranking := bl.ranking.map (List.map π) }) (fun _ => rfl) (fun _ => rfl)
    p.ballots p.cands _ a b

theorem C08_margin_perm_invariant (cands : List Cand) (bs bs' : List Ballot) (hperm : bs.Perm bs') (a b : Cand) :
    margin { ballots := bs, cands := cands } a b = margin { ballots := bs', cands := cands } a b := by
  unfold margin h2h
  rw [rsum_map_perm hperm, rsum_map_perm hperm]

/-- loop outcomes that record the same rounds (or fail in the same way) -/
def RelTrace : Outcome (List (RoundState × CState)) → Outcome (List (RoundState × CState)) → Prop
  | .ok a, .ok b => a.map (·.1) = b.map (·.1)
  | .raised e, .raised e' => e = e'
  | .oracleMismatch, .oracleMismatch => True
  | .outOfFuel, .outOfFuel => True
  | _, _ => False

theorem relTrace_iff (x y : Outcome (List (RoundState × CState))) :
    RelTrace x y ↔ Outcome.Rel (fun a b => a.map (·.1) = b.map (·.1)) x y := by
  cases x <;> cases y <;> exact Iff.rfl

theorem stvLoop_lineq (cfg : STVCfg) (init init' : Profile) (q : Int) (ω : STVOracle)
    (hnr : cfg.transfer ≠ .random) (hcfg : ProfileFreeChoice cfg)
    (hinit : firstPlaceVotes init = firstPlaceVotes init')
    (fuel : Nat) (S S2 : CState) (prev : RoundState) (acc acc2 : List (RoundState × CState))
    (hS : SameCount S S2) (hacc : acc.map (·.1) = acc2.map (·.1)) :
    RelTrace (stvLoop cfg init q ω fuel S prev acc) (stvLoop cfg init' q ω fuel S2 prev acc2) :=
  (relTrace_iff _ _).2 <| (blind_lineq hnr).loop hcfg q ω hinit fuel hacc (sameCount_iff.1 hS)

/-- results that report the same threshold and the same rounds (or fail in the same way) -/
def RelResult : Outcome STVResult → Outcome STVResult → Prop
  | .ok a, .ok b => a.threshold = b.threshold ∧ a.states = b.states
  | .raised e, .raised e' => e = e'
  | .oracleMismatch, .oracleMismatch => True
  | .outOfFuel, .outOfFuel => True
  | _, _ => False

theorem relResult_iff (x y : Outcome STVResult) :
    RelResult x y ↔ Outcome.Rel (fun a b => a.threshold = b.threshold ∧ a.states = b.states) x y := by
  cases x <;> cases y <;> exact Iff.rfl

theorem stvValidProfile_of (p : Profile) (hne : ∀ b ∈ p.ballots, b.ranking ≠ [])
    (hsingle : ∀ b ∈ p.ballots, ∀ s ∈ b.ranking, s.length = 1) : stvValidProfile p = true := by
  simp only [stvValidProfile, List.all_eq_true, Bool.and_eq_true, Bool.not_eq_true', List.isEmpty_eq_false_iff,
    decide_eq_true_eq]
  exact fun b hb => ⟨hne b hb, fun s hs => (hsingle b hb s hs).le⟩

/-- round 0 of the count on `p`, given that the first-place votes are the initial tallies (`fpv_link`) -/
def round0 (p : Profile) : RoundState := initialState p.cands (some (tallies (stvInitState p).bs p.cands))

/-- From the loop to the run: two profiles of untied ballots over the same candidates with equivalent initial
count states start from the same round 0, threshold and fuel, so it is enough that the two loops record the
same rounds. -/
theorem stvRun_rel (cfg : STVCfg) (p p' : Profile) (ω : STVOracle) (hc : p.cands = p'.cands)
    (hle : LinEq (stvInitState p).bs (stvInitState p').bs)
    (hloop : firstPlaceVotes p = firstPlaceVotes p' →
      RelTrace (stvLoop cfg p (threshold cfg.quota cfg.m p.total) ω (p.cands.length + 2) (stvInitState p) (round0 p)
          [(round0 p, stvInitState p)])
        (stvLoop cfg p' (threshold cfg.quota cfg.m p.total) ω (p.cands.length + 2) (stvInitState p') (round0 p)
          [(round0 p, stvInitState p')]))
    (hne : ∀ b ∈ p.ballots, b.ranking ≠ []) (hsingle : ∀ b ∈ p.ballots, ∀ s ∈ b.ranking, s.length = 1)
    (hcast : ∀ b ∈ p.ballots, ∀ c ∈ b.ranking.flatten, c ∈ p.cands)
    (hne' : ∀ b ∈ p'.ballots, b.ranking ≠ []) (hsingle' : ∀ b ∈ p'.ballots, ∀ s ∈ b.ranking, s.length = 1)
    (hcast' : ∀ b ∈ p'.ballots, ∀ c ∈ b.ranking.flatten, c ∈ p'.cands) :
    RelResult (stvRun cfg p ω) (stvRun cfg p' ω) := by
  have hf := fpv_link p hne hsingle hcast
  have hf' := fpv_link p' hne' hsingle' hcast'
  have hsc := (hle.tallies p.cands).symm
  have htot : p'.total = p.total := by rw [total_eq_lsum, total_eq_lsum]; exact (hle _).symm
  have hl := (relTrace_iff _ _).1 (hloop (by rw [hf, hf', ← hc, hsc]))
  rw [relResult_iff]
  unfold stvRun
  simp only [stvValidProfile_of p hne hsingle, stvValidProfile_of p' hne' hsingle', hf, hf', hsc, htot, ← hc,
    Bool.not_true, Bool.false_eq_true, if_false, Outcome.bind_ok]
  exact .ite (fun _ => rfl) fun _ => hl.bind fun a b h => And.intro rfl h

/-- C08 for the STV family (anonymity and representation independence). Two profiles of untied
ranked ballots over the same candidates that give every ranking the same total weight — one is a
reordering of the other's ballots, or splits a ballot into identical ballots whose weights add up, or
merges identical ballots — have, under the same tiebreak oracle, the same threshold and exactly the
same rounds (elected, eliminated, remaining groups, tallies, recorded tiebreaks), or fail in the
same way. Holds for the fractional and the full-weight transfer, for simultaneous election with
any tiebreak and for one-by-one election with tiebreak `None` or `random`. -/
theorem C08_stv_representation_invariant (cfg : STVCfg) (p p' : Profile) (ω : STVOracle)
    (hnr : cfg.transfer ≠ .random) (hcfg : ProfileFreeChoice cfg) (hc : p.cands = p'.cands)
    (hle : LinEq (stvInitState p).bs (stvInitState p').bs)
    (hne : ∀ b ∈ p.ballots, b.ranking ≠ []) (hsingle : ∀ b ∈ p.ballots, ∀ s ∈ b.ranking, s.length = 1)
    (hcast : ∀ b ∈ p.ballots, ∀ c ∈ b.ranking.flatten, c ∈ p.cands)
    (hne' : ∀ b ∈ p'.ballots, b.ranking ≠ []) (hsingle' : ∀ b ∈ p'.ballots, ∀ s ∈ b.ranking, s.length = 1)
    (hcast' : ∀ b ∈ p'.ballots, ∀ c ∈ b.ranking.flatten, c ∈ p'.cands) :
    RelResult (stvRun cfg p ω) (stvRun cfg p' ω) := by
  refine stvRun_rel cfg p p' ω hc hle (fun hinit => ?_) hne hsingle hcast hne' hsingle' hcast'
  exact stvLoop_lineq cfg p p' _ ω hnr hcfg hinit _ _ _ (round0 p) _ _ ⟨hc, rfl, hle⟩ rfl

/-- reordering the ballots meets the hypothesis `hle` of the theorem above -/
theorem C08_stv_ballot_order (p : Profile) (bs' : List Ballot) (h : p.ballots.Perm bs') :
    LinEq (stvInitState p).bs (stvInitState { p with ballots := bs' }).bs := by
  unfold stvInitState
  exact LinEq.of_perm (h.map _)

/-- so does splitting one ballot into two identical ballots whose weights add up -/
theorem C08_stv_ballot_split (cands : List Cand) (r : Ranking) (w1 w2 : Rat) (rest : List Ballot) :
    LinEq (stvInitState { ballots := { ranking := r, weight := w1 + w2, scores := [] } :: rest, cands := cands }).bs
      (stvInitState { ballots := { ranking := r, weight := w1, scores := [] } ::
        { ranking := r, weight := w2, scores := [] } :: rest, cands := cands }).bs := by
  unfold stvInitState
  simp only [List.map_cons]
  exact LinEq.of_split _ _ _ _

end VK
