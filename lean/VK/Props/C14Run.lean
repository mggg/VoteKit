/-
  C14, end to end over the replay layer: whatever log of primitive calls `Gen.runPL` / `Gen.runCumulative`
  accept, the ballots they return have the documented shape (statements about the model function the
  correspondence check runs against the implementation's recorded calls, not only about the pure builders).
  Also here: what an accepted record of each primitive guarantees, and the frame all apportion-then-per-bloc
  generators share (`apportioned_spec`).
-/
import VK.Props.C14
import VK.Lemmas.GenHoare

namespace VK
namespace Gen

/-- what an accepted `np.random.choice(pop, k, p=…, replace=…)` record guarantees: the right number of
draws, all of positive support, and no repetition when drawn without replacement -/
theorem expectChoice_spec_any (exp : List (Cand × Rat)) (k : Nat) (replace : Bool) (what : String) :
    Ensures (expectChoice exp k replace what)
      (fun res => res.length = k ∧ (replace = false → res.Nodup) ∧ ∀ c ∈ res, ∃ e ∈ exp, e.1 = c ∧ 0 < e.2) := by
  unfold expectChoice
  refine ensures_bind_any fun c => ?_
  split
  · refine ensures_guard fun _ => ensures_guard fun _ => ensures_guard fun _ => ?_
    refine ensures_guard fun h4 => ensures_guard fun h5 => ensures_guard fun h6 => ?_
    simp only [Bool.not_eq_true', Bool.not_eq_false] at h5
    simp only [Bool.and_eq_true, Bool.not_eq_true', not_and, Bool.not_eq_true] at h6
    refine ensures_pure ⟨of_not_not h4, fun hr => hasDup_false_nodup _ (h6 hr), fun c hc => ?_⟩
    obtain ⟨e, he, h⟩ := List.any_eq_true.1 (List.all_eq_true.1 h5 c hc)
    exact ⟨e, he, of_decide_eq_true (Bool.and_eq_true_iff.1 h).1, of_decide_eq_true (Bool.and_eq_true_iff.1 h).2⟩
  · exact ensures_bad

theorem expectChoice_spec (exp : List (Cand × Rat)) (k : Nat) (what : String) :
    Ensures (expectChoice exp k false what)
      (fun res => res.length = k ∧ res.Nodup ∧ ∀ c ∈ res, ∃ e ∈ exp, e.1 = c ∧ 0 < e.2) :=
  (expectChoice_spec_any exp k false what).weaken fun _ h => ⟨h.1, h.2.1 rfl, h.2.2⟩

theorem expectChoiceU_spec (exp : List Cand) (k : Nat) (what : String) :
    Ensures (expectChoiceU exp k what) (fun res => res.length = k ∧ res.Nodup ∧ ∀ c ∈ res, c ∈ exp) := by
  unfold expectChoiceU
  refine ensures_bind_any fun c => ?_
  split
  · refine ensures_guard fun _ => ensures_guard fun _ => ensures_guard fun h3 => ?_
    simp only [Bool.or_eq_true, decide_eq_true_eq, not_or, Bool.not_eq_true', Bool.not_eq_true, Bool.not_eq_false,
      Decidable.not_not] at h3
    exact ensures_pure ⟨h3.1.1, hasDup_false_nodup _ h3.1.2, fun c hc =>
      List.contains_iff_mem.1 (List.all_eq_true.1 h3.2 c hc)⟩
  · exact ensures_bad

theorem expectApportion_spec (props : List Rat) (n : Nat) :
    Ensures (expectApportion props n) (fun res => res.length = props.length ∧ sumNat res = n) := by
  unfold expectApportion
  refine ensures_bind_any fun c => ?_
  split
  · refine ensures_guard fun _ => ensures_guard fun _ => ensures_guard fun h3 => ?_
    simp only [Bool.or_eq_true, decide_eq_true_eq, not_or, Decidable.not_not] at h3
    exact ensures_pure h3
  · exact ensures_bad

theorem repeatM_spec {α} {Q : α → Prop} {n : Nat} {f : Nat → GenM α} (h : ∀ i, Ensures (f i) Q) :
    Ensures (repeatM n f) (fun out => out.length = n ∧ ∀ b ∈ out, Q b) :=
  ensures_mapM List.length_range fun i _ => h i

/-- the frame of the bloc generators: apportion the `N` ballots to the blocs, generate each bloc's share,
put the shares together -/
theorem apportioned_spec {α} {Q : α → Prop} {P : Params} (hnb : P.nb = P.props.length) {f : Nat → Nat → GenM (List α)}
    (hf : ∀ b cnt, Ensures (f b cnt) (fun o => o.length = cnt ∧ ∀ x ∈ o, Q x)) :
    Ensures (expectApportion P.props P.N >>= fun counts => forBlocs P counts f)
      (fun bb => bb.flatten.length = P.N ∧ ∀ x ∈ bb.flatten, Q x) := by
  refine ensures_bind (expectApportion_spec P.props P.N) fun counts hc => ?_
  refine (ensures_mapM_flatten (g := Prod.snd) fun bc _ => hf bc.1 bc.2).weaken fun out ho => ⟨?_, ho.2⟩
  rw [ho.1, List.map_snd_zip (by rw [List.length_range, hc.1, hnb]), ← sumNat_eq_sum, hc.2]

def PLShape (support : List (Cand × Rat)) (zeros : List Cand) (b : Ballot) : Prop :=
  b.weight = 1 ∧ ∃ d t, b = plBallot d t ∧ d.Nodup ∧ t.Nodup ∧
    (∀ c ∈ d, ∃ e ∈ support, e.1 = c ∧ 0 < e.2) ∧ (∀ c ∈ t, c ∈ zeros)

theorem plBallot_weight (d t : List Cand) : (plBallot d t).weight = 1 := rfl

/-- **Plackett–Luce generators, end to end.** Whatever log `runPL` accepts: each bloc gets exactly its
apportioned number of ballots, which add up to `N`; every ballot has weight 1, ranks distinct
candidates one per position, and ends in at most one tied group of distinct candidates. The table `sup`
in which the ranked candidates have positive support and the list `zs` holding the tied ones are
existentially quantified: the statement does not say they are the bloc's interval and its zero-support
candidates (the proof supplies exactly those). -/
theorem C14_runPL (P : Params) (L : Nat) (hnb : P.nb = P.props.length) :
    Ensures (runPL P L) (fun bb =>
      bb.flatten.length = P.N ∧ (∀ b ∈ bb.flatten, b.weight = 1) ∧
      ∀ bs ∈ bb, ∀ b ∈ bs, ∃ sup zs, PLShape sup zs b) := by
  unfold runPL
  refine (apportioned_spec hnb (Q := fun b => ∃ sup zs, PLShape sup zs b) fun b cnt => ?_).weaken fun bb h =>
    ⟨h.1, fun b hb => (h.2 b hb).elim fun _ h => h.elim fun _ h => h.1,
      fun bs hbs b hb => h.2 b (List.mem_flatten.2 ⟨bs, hbs, hb⟩)⟩
  refine ensures_bind_any fun iv => repeatM_spec fun i => ?_
  refine ensures_bind (expectChoice_spec iv.interval _ _) fun d hd => ?_
  have fin : ∀ t : List Cand, t.Nodup → (∀ c ∈ t, c ∈ iv.zeros) →
      Ensures (pure (plBallot d t) : GenM Ballot) (fun b => ∃ sup zs, PLShape sup zs b) := fun t ht hz =>
    ensures_pure ⟨iv.interval, iv.zeros, rfl, d, t, rfl, hd.2.1, ht, hd.2.2, hz⟩
  refine ensures_ite (fun _ => ?_) (fun _ => ?_)
  · exact ensures_bind (expectChoiceU_spec _ _ _) fun t ht => fin t ht.2.1 ht.2.2
  · exact ensures_bind (ensures_pure (Q := (· = [])) rfl) fun t ht => ht ▸ fin [] List.nodup_nil nofun

/-- **Cumulative generator, end to end**: `N` ballots, each the cumulative ballot of `votes` draws. -/
theorem C14_runCumulative (P : Params) (hnb : P.nb = P.props.length) :
    Ensures (runCumulative P) (fun bb =>
      bb.flatten.length = P.N ∧ ∀ bs ∈ bb, ∀ b ∈ bs, ∃ d : List Cand, b = cumulativeBallot d ∧ d.length = P.votes) := by
  unfold runCumulative
  refine (apportioned_spec hnb (Q := fun b => ∃ d : List Cand, b = cumulativeBallot d ∧ d.length = P.votes)
    fun b cnt => ?_).weaken fun bb h => ⟨h.1, fun bs hbs b hb => h.2 b (List.mem_flatten.2 ⟨bs, hbs, hb⟩)⟩
  refine ensures_bind_any fun iv => repeatM_spec fun i => ?_
  exact ensures_bind (expectChoice_spec_any iv.interval _ true _) fun d hd => ensures_pure ⟨d, rfl, hd.1⟩

end Gen
end VK
