/-
  Property C09 — the profile of every round for the single-round rules (`topMRun` with any scoring function whose
  table is keyed by the profile's candidates), instantiated for Plurality / SNTV.
-/
import VK.Model.Replay
import VK.Lemmas.Elect
import VK.Lemmas.STVRun
import VK.Lemmas.Outcome
namespace VK

/-- **C09 (single-round rules).** The profile reported for round 1 has exactly the candidates still remaining
after round 1 and re-scoring it reproduces the tallies recorded for that round; likewise round 0 and the initial
profile. -/
theorem C09_topM_round_profiles (p : Profile) (m : Nat) (tb : Option TB) (pri : List Cand)
    (score : Profile → Outcome (List (Cand × Rat)))
    (hkeys : ∀ q sc, score q = .ok sc → sc.map (·.1) = q.cands) (hN : p.cands.Nodup)
    (st : States) (h : topMRun p m tb pri score = .ok st) :
    ∃ s0 s1, st = [s0, s1] ∧
      singleRoundProfiles p st = [p, removeCand s1.elected.flatten p] ∧
      score p = .ok s0.scores ∧ s0.remaining.flatten.Perm p.cands ∧
      score (removeCand s1.elected.flatten p) = .ok s1.scores ∧
      s1.remaining.flatten.Perm (removeCand s1.elected.flatten p).cands := by
  obtain ⟨sc0, r, sc1, hsc0, hel, hsc1, rfl⟩ := topMRun_ok p m tb pri score st h
  have hperm0 := scoreToRanking_perm_keys (hkeys p sc0 hsc0)
  obtain ⟨hnd, hsub⟩ := ranking_side hN hperm0 (List.Sublist.refl _)
  have hcount := electFromRanking_count pri (scoreToRanking sc0) m (some p) tb r hnd hsub hel
  exact ⟨_, _, rfl, rfl, hsc0, hperm0, hsc1,
    perm_filter_of_append p.cands r.elected.flatten r.remaining.flatten hN (hcount.2.trans hperm0)⟩

theorem C09_plurality_round_profiles (p : Profile) (m : Nat) (tb : Option TB) (pri : List Cand) (hN : p.cands.Nodup)
    (st : States) (h : pluralityRun p m tb pri = .ok st) :
    ∃ s0 s1, st = [s0, s1] ∧ singleRoundProfiles p st = [p, removeCand s1.elected.flatten p] ∧
      firstPlaceVotes p = .ok s0.scores ∧ s0.remaining.flatten.Perm p.cands ∧
      firstPlaceVotes (removeCand s1.elected.flatten p) = .ok s1.scores ∧
      s1.remaining.flatten.Perm (removeCand s1.elected.flatten p).cands := by
  exact C09_topM_round_profiles p m tb pri firstPlaceVotes (fun q sc hq => scoreFromRankings_keys q _ sc hq) hN st
    (pluralityRun_ok h)

end VK
