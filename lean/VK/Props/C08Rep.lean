/-
  C08, ballot representation for the single-round rules: two profiles over the same candidates whose ballot lists
  represent the same weighted contents (`RepEq`: a reordering, a splitting of a ballot into identical ballots whose
  positive weights add up, a merging of identical ballots) give exactly the same rounds under Plurality / SNTV,
  Borda and the score-ballot classes, the pairwise rules and TopTwo, or the same exception.
  A rule is a chain of binds over observations of the profile, each of which respects `RepEq`.
-/
import VK.Lemmas.RepEq
namespace VK

/-- a scoring function that looks at the ballots only through the representation-independent data -/
def ScoreRep (score : Profile → Outcome (List (Cand × Rat))) : Prop :=
  ∀ (cands : List Cand) (a b : List Ballot), RepEq a b →
    score { ballots := a, cands := cands } = score { ballots := b, cands := cands }

theorem scoreRep_rankings (v : List Rat) : ScoreRep (fun q => scoreFromRankings q v) :=
  fun cands a b h => scoreFromRankings_rep cands a b h v

theorem scoreRep_fpv : ScoreRep firstPlaceVotes :=
  fun cands a b h => scoreFromRankings_rep cands a b h _

theorem scoreRep_borda : ScoreRep bordaScores :=
  fun cands a b h => scoreFromRankings_rep cands a b h _

theorem scoreRep_ballotScores : ScoreRep scoreFromBallotScores :=
  fun cands a b h => scoreFromBallotScores_rep cands a b h

theorem ScoreRep.removeCand {score : Profile → Outcome (List (Cand × Rat))} (hs : ScoreRep score) {a b : List Ballot}
    (h : RepEq a b) (cands e : List Cand) :
    score (removeCand e { ballots := a, cands := cands }) = score (removeCand e { ballots := b, cands := cands }) :=
  hs _ _ _ (h.removeCand e)

theorem tiebreakSet_rep (pri s : List Cand) (cands : List Cand) (a b : List Ballot) (h : RepEq a b) (tb : TB) :
    tiebreakSet pri s (some { ballots := a, cands := cands }) tb =
      tiebreakSet pri s (some { ballots := b, cands := cands }) tb := by
  unfold tiebreakSet
  cases tb with
  | random => rfl
  | borda => simp only [scoreRep_borda cands a b h, scoreRep_fpv cands a b h]
  | firstPlace => simp only [scoreRep_borda cands a b h, scoreRep_fpv cands a b h]

theorem electFromRanking_rep (pri : List Cand) (R : Ranking) (m : Nat) (cands : List Cand) (a b : List Ballot)
    (h : RepEq a b) (tb : Option TB) :
    electFromRanking pri R m (some { ballots := a, cands := cands }) tb =
      electFromRanking pri R m (some { ballots := b, cands := cands }) tb :=
  electFromRanking_congr pri _ _ tb (fun s t _ => tiebreakSet_rep pri s cands a b h t) R m

theorem topMRun_rep (cands : List Cand) (a b : List Ballot) (h : RepEq a b) (m : Nat) (tb : Option TB)
    (pri : List Cand) (score : Profile → Outcome (List (Cand × Rat))) (hs : ScoreRep score) :
    topMRun { ballots := a, cands := cands } m tb pri score = topMRun { ballots := b, cands := cands } m tb pri score := by
  unfold topMRun
  simp only [hs cands a b h, electFromRanking_rep pri _ m cands a b h tb, hs.removeCand h]

theorem C08_plurality_rep (cands : List Cand) (a b : List Ballot) (h : RepEq a b) (m : Nat) (tb : Option TB)
    (pri : List Cand) :
    pluralityRun { ballots := a, cands := cands } m tb pri = pluralityRun { ballots := b, cands := cands } m tb pri := by
  unfold pluralityRun
  rw [rankingValid_rep cands a b h, topMRun_rep cands a b h m tb pri _ scoreRep_fpv]

theorem C08_borda_rep (cands : List Cand) (a b : List Ballot) (h : RepEq a b) (m : Nat) (v : Option (List Rat))
    (tb : Option TB) (pri : List Cand) :
    bordaRun { ballots := a, cands := cands } m v tb pri = bordaRun { ballots := b, cands := cands } m v tb pri := by
  unfold bordaRun
  simp only [rankingValid_rep cands a b h, topMRun_rep cands a b h m tb pri _ (scoreRep_rankings _)]

theorem C08_rating_rep (cands : List Cand) (a b : List Ballot) (h : RepEq a b) (m : Int) (L : Rat) (k : Option Rat)
    (tb : Option TB) (pri : List Cand) :
    generalRatingRun { ballots := a, cands := cands } m L k tb pri =
      generalRatingRun { ballots := b, cands := cands } m L k tb pri := by
  unfold generalRatingRun
  rw [show a.all (ratingBallotOk L (effectiveBudget k)) = b.all (ratingBallotOk L (effectiveBudget k)) from
      all_of_same h.same (fun c => ratingBallotOk L (effectiveBudget k) ⟨c.1, 1, c.2⟩),
    topMRun_rep cands a b h m.toNat tb pri _ scoreRep_ballotScores]

/-- the six score-ballot classes -/
theorem C08_scorerule_rep (rule : ScoreRule) (cands : List Cand) (a b : List Ballot) (h : RepEq a b) (m : Int)
    (L : Rat) (k : Option Rat) (tb : Option TB) (pri : List Cand) :
    scoreRuleRun rule { ballots := a, cands := cands } m L k tb pri =
      scoreRuleRun rule { ballots := b, cands := cands } m L k tb pri := by
  simp only [scoreRuleRun, C08_rating_rep cands a b h]

/-- the three transformations of the property statement, for Plurality (the other rules alike through `RepEq`) -/
theorem C08_plurality_ballot_order (cands : List Cand) (a b : List Ballot) (hp : a.Perm b) (hpos : PosW a)
    (m : Nat) (tb : Option TB) (pri : List Cand) :
    pluralityRun { ballots := a, cands := cands } m tb pri = pluralityRun { ballots := b, cands := cands } m tb pri :=
  C08_plurality_rep cands a b (RepEq.of_perm hp hpos) m tb pri

theorem C08_plurality_ballot_split (cands : List Cand) (r : Ranking) (s : Scores) (w1 w2 : Rat) (h1 : 0 < w1)
    (h2 : 0 < w2) (rest : List Ballot) (hp : PosW rest) (m : Nat) (tb : Option TB) (pri : List Cand) :
    pluralityRun { ballots := ⟨r, w1, s⟩ :: ⟨r, w2, s⟩ :: rest, cands := cands } m tb pri =
      pluralityRun { ballots := ⟨r, w1 + w2, s⟩ :: rest, cands := cands } m tb pri :=
  C08_plurality_rep cands _ _ (RepEq.of_split r s w1 w2 h1 h2 rest hp) m tb pri

theorem C08_plurality_ballot_merge (cands : List Cand) (a : List Ballot) (hpos : PosW a) (m : Nat) (tb : Option TB)
    (pri : List Cand) :
    pluralityRun { ballots := a, cands := cands } m tb pri =
      pluralityRun { ballots := condense a, cands := cands } m tb pri :=
  C08_plurality_rep cands a _ (RepEq.of_condense a hpos) m tb pri

example : RepEq [⟨[[0], [1]], 2, []⟩, ⟨[[1]], 3, []⟩, ⟨[[0], [1]], 1, []⟩]
    [⟨[[0], [1]], 2, []⟩, ⟨[[0], [1]], 1, []⟩, ⟨[[1]], 3, []⟩] :=
  RepEq.of_perm (.cons _ (.swap _ _ _)) (by unfold PosW; decide)

example : RepEq [⟨[[0], [1]], 2, []⟩, ⟨[[0], [1]], 1, []⟩, ⟨[[1]], 3, []⟩] [⟨[[0], [1]], 2 + 1, []⟩, ⟨[[1]], 3, []⟩] :=
  RepEq.of_split [[0], [1]] [] 2 1 (by decide) (by decide) [⟨[[1]], 3, []⟩] (by unfold PosW; decide)

theorem h2h_rep (cands : List Cand) (a b : List Ballot) (h : RepEq a b) (x y : Cand) :
    h2h { ballots := a, cands := cands } x y = h2h { ballots := b, cands := cands } x y :=
  h.lin (fun k => prefShareR k.1 x y)

theorem edge_rep (cands : List Cand) (a b : List Ballot) (h : RepEq a b) :
    edge { ballots := a, cands := cands } = edge { ballots := b, cands := cands } := by
  funext x y
  unfold edge margin
  rw [h2h_rep cands a b h, h2h_rep cands a b h]

theorem C08_tiers_rep (cands : List Cand) (a b : List Ballot) (h : RepEq a b) :
    dominatingTiers { ballots := a, cands := cands } = dominatingTiers { ballots := b, cands := cands } := by
  unfold dominatingTiers graphCands
  simp only [isEmpty_rep a b h, edge_rep cands a b h]

theorem C08_domsets_rep (cands : List Cand) (a b : List Ballot) (h : RepEq a b) :
    dominatingSetsRun { ballots := a, cands := cands } = dominatingSetsRun { ballots := b, cands := cands } := by
  unfold dominatingSetsRun
  rw [rankingValid_rep cands a b h, C08_tiers_rep cands a b h]

theorem C08_condoborda_rep (cands : List Cand) (a b : List Ballot) (h : RepEq a b) (m : Nat) (pri : List Cand) :
    condoBordaRun { ballots := a, cands := cands } m pri = condoBordaRun { ballots := b, cands := cands } m pri := by
  unfold condoBordaRun
  simp only [rankingValid_rep cands a b h, scoreRep_borda cands a b h, C08_tiers_rep cands a b h,
    electFromRanking_rep pri _ m cands a b h, scoreRep_borda.removeCand h]

/-- the finalist stage reports the same two rounds and hands on the two profiles with the same candidates removed -/
theorem finalistStage_rep (cands : List Cand) (a b : List Ballot) (h : RepEq a b) (k : Nat) (tb : Option TB)
    (pri : List Cand) :
    Outcome.Rel (fun x y => ∃ s0 s1 e, x = (s0, s1, removeCand e { ballots := a, cands := cands }) ∧
        y = (s0, s1, removeCand e { ballots := b, cands := cands }))
      (finalistStage { ballots := a, cands := cands } k tb pri)
      (finalistStage { ballots := b, cands := cands } k tb pri) := by
  unfold finalistStage
  rw [scoreRep_fpv cands a b h, C08_plurality_rep cands a b h]
  refine .bind_same _ fun sc0 => .bind_same _ fun pl => ?_
  split
  · simp only [scoreRep_fpv.removeCand h]
    exact .bind_same _ fun sc1 => ⟨_, _, _, rfl, rfl⟩
  · exact rfl

theorem C08_toptwo_rep (cands : List Cand) (a b : List Ballot) (h : RepEq a b) (tb : Option TB) (pri : Nat → List Cand) :
    topTwoRun { ballots := a, cands := cands } tb pri = topTwoRun { ballots := b, cands := cands } tb pri := by
  unfold topTwoRun
  rw [rankingValid_rep cands a b h]
  refine congrArg _ ((finalistStage_rep cands a b h 2 tb (pri 1)).bind_eq ?_)
  rintro _ _ ⟨s0, s1, e, rfl, rfl⟩
  exact congrArg (· >>= _) (C08_plurality_rep _ _ _ (h.removeCand e) 1 tb (pri 2))

end VK
