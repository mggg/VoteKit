/-
  Property C12 — ballot-editing utilities preserve order and lose no votes except exhausted ones.
-/
import VK.Lemmas.Condense
import Mathlib.Tactic.FieldSimp
import Mathlib.Data.List.Permutation

namespace VK

theorem filter_positions_flatten (p : Cand → Bool) (r : Ranking) :
    ((r.map (fun s => s.filter p)).filter (fun s => !s.isEmpty)).flatten = r.flatten.filter p := by
  rw [List.flatten_filter_not_isEmpty, List.filter_flatten]

/-- **C12 (order).** `remove_cand` keeps the surviving candidates in their order. -/
theorem C12_order (removed : List Cand) (r : Ranking) :
    (scrubRanking removed r).flatten = r.flatten.filter (fun c => !removed.contains c) :=
  filter_positions_flatten _ r

theorem scrubRanking_positions (removed : List Cand) (r : Ranking) :
    ∀ s ∈ scrubRanking removed r, s ≠ [] ∧ ∃ s0 ∈ r, s = s0.filter (fun c => !removed.contains c) := by
  intro s hs
  obtain ⟨hm, hne⟩ := List.mem_filter.1 hs
  obtain ⟨s0, hs0, rfl⟩ := List.mem_map.1 hm
  exact ⟨fun e => (by rw [e] at hne; cases hne), s0, hs0, rfl⟩

theorem scrubRanking_nil (removed : List Cand) : scrubRanking removed [] = [] := rfl

/-! `scrubBallot` field by field: the exhausted ballot `Ballot(weight=0)` has the scrubbed ranking and
scores as well, both being empty. -/

theorem scrubBallot_ranking (removed : List Cand) (b : Ballot) :
    (scrubBallot removed b).ranking = scrubRanking removed b.ranking := by
  unfold scrubBallot
  dsimp only
  split
  · rename_i h
    exact (List.isEmpty_iff.1 (Bool.and_eq_true_iff.1 h).1).symm
  · rfl

theorem scrubBallot_scores (removed : List Cand) (b : Ballot) :
    (scrubBallot removed b).scores = scrubScores removed b.scores := by
  unfold scrubBallot
  dsimp only
  split
  · rename_i h
    exact (List.isEmpty_iff.1 (Bool.and_eq_true_iff.1 h).2).symm
  · rfl

theorem scrubBallot_weight {removed : List Cand} {b : Ballot} (h : (scrubBallot removed b).ranking ≠ []) :
    (scrubBallot removed b).weight = b.weight := by
  unfold scrubBallot at h ⊢
  dsimp only at h ⊢
  split
  · rename_i he; rw [if_pos he] at h; exact absurd rfl h
  · rfl

/-- **No removed candidate appears** in any ranking or score dictionary of the result. -/
theorem C12_removed_absent (removed : List Cand) (bs : List Ballot) (lz : Bool) :
    ∀ b ∈ scrubBallots removed bs lz, ∀ c ∈ removed,
      c ∉ b.ranking.flatten ∧ c ∉ b.scores.map (·.1) := by
  intro b hb c hc
  have hb' : b ∈ bs.map (scrubBallot removed) := by
    unfold scrubBallots at hb
    split at hb
    · exact hb
    · exact (List.mem_filter.1 hb).1
  obtain ⟨b0, _, rfl⟩ := List.mem_map.1 hb'
  have hkept : ∀ x, (!removed.contains x) = true → x ≠ c := fun x hx e => by simp [e, hc] at hx
  rw [scrubBallot_ranking, scrubBallot_scores, C12_order]
  refine ⟨fun h => hkept c (List.mem_filter.1 h).2 rfl, fun h => ?_⟩
  obtain ⟨x, hx, rfl⟩ := List.mem_map.1 h
  exact hkept x.1 (List.mem_filter.1 hx).2 rfl

/-- content a ballot maps to under `remove_cand` (`none` = exhausted) -/
def scrubContent (removed : List Cand) (b : Ballot) : Option Content :=
  let r := scrubRanking removed b.ranking
  let s := scrubScores removed b.scores
  if r.isEmpty && s.isEmpty then none else some (r, s)

/-- what one input ballot of positive weight contributes to a content-linear total of the result -/
theorem scrub_term (g : Content → Rat) (removed : List Cand) (b : Ballot) (hb : 0 < b.weight) :
    (if decide (0 < (scrubBallot removed b).weight) = true
      then g (scrubBallot removed b).content * (scrubBallot removed b).weight else 0) =
    (scrubContent removed b).elim 0 (fun k => g k * b.weight) := by
  by_cases he : ((scrubRanking removed b.ranking).isEmpty && (scrubScores removed b.scores).isEmpty) = true
  · simp [scrubBallot, scrubContent, he]
  · simp [scrubBallot, scrubContent, he, hb, Ballot.content]

/-- **`remove_cand` carries every content-linear total over**: a ballot counts under the content it
is mapped to, an exhausted ballot not at all (positive input weights, condensed or not). -/
theorem sum_removeCand (g : Content → Rat) (removed : List Cand) (bs : List Ballot) (cond : Bool)
    (hpos : ∀ b ∈ bs, 0 < b.weight) :
    rsum ((removeCandBallots removed bs cond false).map (fun b => g b.content * b.weight)) =
      rsum (bs.map (fun b => (scrubContent removed b).elim 0 (fun k => g k * b.weight))) := by
  have h : rsum ((scrubBallots removed bs false).map (fun b => g b.content * b.weight)) =
      rsum (bs.map (fun b => (scrubContent removed b).elim 0 (fun k => g k * b.weight))) := by
    simp only [scrubBallots, Bool.false_eq_true, if_false]
    rw [rsum_filter_map_eq_ite, List.map_map]
    exact congrArg rsum (List.map_congr_left fun b hb => scrub_term g removed b (hpos b hb))
  cases cond
  · exact h
  · exact (sum_condense g _).trans h

/-- **Weight per resulting content.** With positive input weights, every content `k` carries in the
result of `remove_cand` (condensed or not) exactly the summed weight of the input ballots that map to
it; an exhausted ballot maps to no content. -/
theorem C12_weight (removed : List Cand) (bs : List Ballot) (cond : Bool) (k : Content)
    (hpos : ∀ b ∈ bs, 0 < b.weight) :
    wt (removeCandBallots removed bs cond false) k =
      rsum ((bs.filter (fun b => scrubContent removed b = some k)).map (·.weight)) := by
  rw [wt_eq_sum, sum_removeCand (fun c => if c = k then 1 else 0) removed bs cond hpos,
    rsum_filter_map_eq_ite]
  exact congrArg rsum (List.map_congr_left fun b _ => by cases scrubContent removed b <;> simp)

/-- **Weight disappears only with ballots that end up empty.** -/
theorem C12_lost_only_empty (removed : List Cand) (bs : List Ballot) (cond : Bool)
    (hpos : ∀ b ∈ bs, 0 < b.weight) :
    totalWeight (removeCandBallots removed bs cond false) =
      totalWeight bs - rsum ((bs.filter (fun b => scrubContent removed b = none)).map (·.weight)) := by
  have h := sum_removeCand (fun _ => 1) removed bs cond hpos
  simp only [one_mul] at h
  refine eq_sub_of_add_eq ?_
  unfold totalWeight
  rw [h, rsum_filter_map_eq_ite, ← rsum_map_add]
  exact congrArg rsum (List.map_congr_left fun b _ => by cases scrubContent removed b <;> simp)

/-- **add_missing_cands**: the ballot keeps its ranking and weight and gains exactly one last
position holding the declared candidates it does not list (nothing when it lists them all). -/
theorem C12_add_missing (cands : List Cand) (b : Ballot) :
    (addMissingBallot cands b).weight = b.weight ∧
    ((∀ c ∈ cands, c ∈ b.ranking.flatten) → (addMissingBallot cands b).ranking = b.ranking) ∧
    ((∃ c ∈ cands, c ∉ b.ranking.flatten) →
      (addMissingBallot cands b).ranking = b.ranking ++ [cands.filter (fun c => !b.ranking.flatten.contains c)]) := by
  unfold addMissingBallot missingCands
  refine ⟨rfl, fun h => ?_, fun ⟨c, hc, hnot⟩ => ?_⟩
  · rw [List.filter_eq_nil_iff.2 fun c hc => by simp [h c hc]]; rfl
  · refine if_neg fun e => ?_
    simpa [hnot] using List.filter_eq_nil_iff.1 (List.isEmpty_iff.1 e) c hc

/-! ### "every linear order consistent with the ballot, each exactly once"

`perms` is Mathlib's `List.permutations'`, written out in the model so that the driver needs no
Mathlib; what is known about the latter carries over. -/

theorem insertEverywhere_eq (x : Cand) (l : List Cand) : insertEverywhere x l = l.permutations'Aux x := by
  induction l with
  | nil => rfl
  | cons y ys ih => rw [insertEverywhere, ih]; rfl

theorem perms_eq (l : List Cand) : perms l = l.permutations' := by
  induction l with
  | nil => rfl
  | cons x xs ih => rw [perms, ih, funext (insertEverywhere_eq x)]; rfl

theorem fact_eq (n : Nat) : fact n = n.factorial := by
  induction n with
  | zero => rfl
  | succ k ih => rw [fact, ih]; rfl

theorem fact_pos (n : Nat) : 0 < fact n := fact_eq n ▸ n.factorial_pos

theorem fact_ne_zero (n : Nat) : (fact n : Rat) ≠ 0 := Nat.cast_ne_zero.2 (fact_pos n).ne'

theorem mem_perms_iff (l o : List Cand) : o ∈ perms l ↔ o.Perm l := by
  rw [perms_eq]; exact List.mem_permutations'

theorem perms_nodup (l : List Cand) (h : l.Nodup) : (perms l).Nodup := by
  rw [perms_eq]
  exact (List.permutations_perm_permutations' l).nodup_iff.1 (List.nodup_permutations l h)

theorem perms_length (l : List Cand) : (perms l).length = fact l.length := by
  rw [perms_eq, fact_eq, ← List.length_permutations]
  exact (List.permutations_perm_permutations' l).length_eq.symm

/-- **Every consistent linear order is listed, and nothing else**: one rearrangement of every
position, in order. -/
theorem mem_linearise_iff (r : Ranking) (o : List Cand) :
    o ∈ linearise r ↔ ∃ parts : List (List Cand), o = parts.flatten ∧ List.Forall₂ (fun part s => part.Perm s) parts r := by
  induction r generalizing o with
  | nil =>
    simp only [linearise, List.mem_singleton]
    constructor
    · intro h; exact ⟨[], by simp [h], List.Forall₂.nil⟩
    · rintro ⟨parts, ho, hf⟩
      cases hf; simpa using ho
  | cons s rest ih =>
    simp only [linearise, List.mem_flatMap, List.mem_map]
    constructor
    · rintro ⟨o1, ho1, o2, ho2, rfl⟩
      obtain ⟨parts, rfl, hf⟩ := (ih o2).1 ho2
      exact ⟨o1 :: parts, by simp, List.Forall₂.cons ((mem_perms_iff s o1).1 ho1) hf⟩
    · rintro ⟨parts, ho, hf⟩
      cases hf with
      | cons h1 h2 =>
        rename_i p1 ps
        exact ⟨p1, (mem_perms_iff s p1).2 h1, ps.flatten, (ih _).2 ⟨ps, rfl, h2⟩, by simp [ho]⟩

/-- **Every consistent linear order exactly once**, for a ranking whose positions are duplicate-free. -/
theorem linearise_nodup (r : Ranking) (h : ∀ s ∈ r, s.Nodup) : (linearise r).Nodup := by
  induction r with
  | nil => simp [linearise]
  | cons s rest ih =>
    have hs := perms_nodup s (h s (by simp))
    have hrest := ih (fun t ht => h t (by simp [ht]))
    simp only [linearise]
    rw [List.nodup_flatMap]
    refine ⟨?_, ?_⟩
    · intro o1 _
      exact hrest.map (fun a b hab => List.append_cancel_left hab)
    · refine List.Pairwise.imp_of_mem ?_ hs
      intro o1 o1' ho1 ho1' hne o ho ho'
      obtain ⟨t, _, rfl⟩ := List.mem_map.1 ho
      obtain ⟨t', _, heq⟩ := List.mem_map.1 ho'
      -- both prefixes are rearrangements of `s`, so they have the same length and must coincide
      have hl : o1.length = o1'.length := by
        rw [((mem_perms_iff s o1).1 ho1).length_eq, ((mem_perms_iff s o1').1 ho1').length_eq]
      exact hne (List.append_inj_left heq.symm hl)

theorem linearise_length_cons (s : List Cand) (rest : Ranking) :
    (linearise (s :: rest)).length = fact s.length * (linearise rest).length := by
  simp [linearise, List.length_flatMap, perms_length]

/-- the number of linear orders of a ranking is the product of the factorials of its tie sizes -/
theorem C12_expand_count (r : Ranking) : (linearise r).length = tieDivisor r := by
  induction r with
  | nil => rfl
  | cons s rest ih => rw [linearise_length_cons, tieDivisor_cons, ih]

theorem tieDivisor_pos (r : Ranking) : 0 < tieDivisor r := by
  induction r with
  | nil => exact Nat.one_pos
  | cons s rest ih => rw [tieDivisor_cons]; exact Nat.mul_pos (fact_pos _) ih

theorem tieDivisor_ne_zero (r : Ranking) : ((tieDivisor r : Nat) : Rat) ≠ 0 :=
  Nat.cast_ne_zero.2 (tieDivisor_pos r).ne'

/-- what `expand_tied_ballot` returns when it returns: the ballot itself if nothing is tied, else one
ballot per consistent linear order, of equal weight -/
theorem expandTied_ok {b : Ballot} {out : List Ballot} (h : expandTied b = .ok out) :
    b.ranking.all (fun s => s.length = 1) ∧ out = [b] ∨ ¬ b.ranking.all (fun s => s.length = 1) ∧
      out = (linearise b.ranking).map (fun o =>
        { ranking := o.map (fun c => [c]), weight := b.weight / (tieDivisor b.ranking : Rat), scores := [] }) := by
  unfold expandTied at h
  split at h
  · cases h
  · split at h <;> injection h with h
    · exact Or.inl ⟨‹_›, h.symm⟩
    · exact Or.inr ⟨‹_›, h.symm⟩

/-- what the orders of `b.ranking` share out evenly, the expanded ballots keep: if `F` adds up to
`#orders × X` over the orders, then with the expansion's weights it adds up to `X × weight` -/
theorem rsum_expand (b : Ballot) (F : Ranking → Rat) (X : Rat)
    (hF : rsum ((linearise b.ranking).map fun o => F (o.map fun c => [c])) =
      ((linearise b.ranking).length : Rat) * X) :
    rsum (((linearise b.ranking).map fun o =>
      (⟨o.map (fun c => [c]), b.weight / (tieDivisor b.ranking : Rat), []⟩ : Ballot)).map
        fun x => F x.ranking * x.weight) = X * b.weight := by
  rw [List.map_map]
  show rsum ((linearise b.ranking).map fun o =>
    F (o.map fun c => [c]) * (b.weight / (tieDivisor b.ranking : Rat))) = _
  rw [rsum_map_mul_right, hF, C12_expand_count, mul_right_comm, mul_div_cancel₀ _ (tieDivisor_ne_zero _), mul_comm]

/-- **Expanding ties keeps the weight**: the expanded ballots have equal weight and add up to the
original ballot's weight. -/
theorem C12_expand_total (b : Ballot) (out : List Ballot) (h : expandTied b = .ok out) :
    totalWeight out = b.weight ∧ ∀ x ∈ out, x.weight = b.weight / (out.length : Rat) := by
  rcases expandTied_ok h with ⟨_, rfl⟩ | ⟨_, rfl⟩
  · simp [totalWeight]
  · rw [List.length_map, C12_expand_count]
    constructor
    · rw [totalWeight, List.map_map]
      show rsum ((linearise b.ranking).map fun _ => b.weight / (tieDivisor b.ranking : Rat)) = b.weight
      rw [rsum_const_mul, C12_expand_count, mul_div_cancel₀ _ (tieDivisor_ne_zero _)]
    · intro x hx
      obtain ⟨o, _, rfl⟩ := List.mem_map.1 hx
      rfl

/-- non-vacuity: a ballot {A,B} > C of weight 3 expands to A>B>C and B>A>C with weight 3/2 each -/
example : expandTied { ranking := [[0, 1], [2]], weight := 3 } =
    .ok [{ ranking := [[0], [1], [2]], weight := 3 / 2 }, { ranking := [[1], [0], [2]], weight := 3 / 2 }] := by
  decide +kernel

end VK
