/-
  Property C06 — pairwise comparison, dominating tiers and Condorcet consistency.
-/
import VK.Lemmas.Fill
import VK.Lemmas.Reach
import VK.Lemmas.Elect
import VK.Model.Rules
import Mathlib.Tactic.Ring

namespace VK
open Tiers

theorem C06_margin_antisymm (p : Profile) (a b : Cand) : margin p a b = - margin p b a := by
  unfold margin; ring

/-- **Head-to-head shares follow the documented rule**: a listed candidate beats an unlisted one,
two unlisted candidates split evenly, and two different candidates always share exactly the
ballot between them. -/
theorem C06_prefShare_cases (r : List Cand) (a b : Cand) (hab : a ≠ b) :
    (a ∈ r → b ∉ r → prefShare r a b = 1 ∧ prefShare r b a = 0) ∧
    (a ∉ r → b ∉ r → prefShare r a b = 1 / 2) ∧
    prefShare r a b + prefShare r b a = 1 := by
  simp only [prefShare_eq]
  refine ⟨fun ha hb => ?_, fun ha hb => if_neg (not_or.2 ⟨ha, hb⟩), ?_⟩
  · rw [if_pos (Or.inl ha), if_pos (Or.inr ha), beforeIn_of_mem_of_not_mem ha hb, beforeIn_of_not_mem hb]
    exact ⟨rfl, rfl⟩
  · by_cases h : a ∈ r ∨ b ∈ r
    · rw [if_pos h, if_pos h.symm]; exact beforeIn_add hab h
    · rw [if_neg h, if_neg (mt Or.symm h)]; norm_num

theorem edge_iff (p : Profile) (a b : Cand) : edge p a b = true ↔ a ≠ b ∧ 0 ≤ margin p a b := by
  simp [edge]

theorem edge_total (p : Profile) (cands : List Cand) : Total cands (edge p) := by
  intro a _ b _ hne
  rw [edge_iff, edge_iff, C06_margin_antisymm p b a, neg_nonneg]
  exact (le_total 0 (margin p a b)).imp (fun h => ⟨hne, h⟩) fun h => ⟨hne.symm, h⟩

theorem margin_pos_of_not_edge {p : Profile} {a b : Cand} (hne : a ≠ b) (h : edge p b a = false) :
    0 < margin p a b := by
  rw [C06_margin_antisymm, neg_pos]
  exact not_le.1 fun hle => Bool.false_ne_true (h.symm.trans ((edge_iff p b a).2 ⟨hne.symm, hle⟩))

/-- **The bounded expansion computes reachability.** -/
theorem C06_reach_correct (p : Profile) (a b : Cand) :
    b ∈ reach (graphCands p) (edge p) a ↔
      a ∈ graphCands p ∧ Relation.ReflTransGen (Edge (graphCands p) (edge p)) a b :=
  mem_reach _ _ a b

/-! ### the tiers are the classes of equal reach count, by decreasing count -/

theorem tiers_perm (cands : List Cand) (E : Cand → Cand → Bool) : (tiersOf cands E).flatten.Perm cands := by
  unfold tiersOf
  have := scoreToRanking_perm (cands.map (fun c => (c, ((reachCount cands E c : Nat) : Rat))))
  simpa [List.map_map, Function.comp_def] using this

theorem tiers_eq (cands : List Cand) (E : Cand → Cand → Bool) :
    ∃ vals : List Rat, vals.Pairwise (· > ·) ∧
      tiersOf cands E = vals.map (fun v => cands.filter (fun c => ((rc cands E c : Nat) : Rat) = v)) := by
  refine ⟨_, distinctDesc_sorted _, (scoreToRanking_eq _).trans (List.map_congr_left fun v _ => ?_)⟩
  rw [groupOf, List.filter_map, List.map_map]
  refine (List.map_congr_left (g := id) fun _ _ => rfl).trans ((List.map_id _).trans ?_)
  exact List.filter_congr fun c hc => by simp only [Function.comp, reachCount_eq_rc cands E c hc]

/-- a tier consists of the candidates with the reach count of any one of its members -/
theorem mem_tier {cands : List Cand} {E : Cand → Cand → Bool} {t : List Cand} (ht : t ∈ tiersOf cands E)
    {a : Cand} (ha : a ∈ t) : ∀ b, b ∈ t ↔ b ∈ cands ∧ rc cands E b = rc cands E a := by
  obtain ⟨vals, _, heq⟩ := tiers_eq cands E
  obtain ⟨v, _, rfl⟩ := List.mem_map.1 (heq ▸ ht)
  have hv := of_decide_eq_true (List.mem_filter.1 ha).2
  intro b
  rw [List.mem_filter, decide_eq_true_eq, ← hv, Nat.cast_inj]

theorem tier_subset {cands : List Cand} {E : Cand → Cand → Bool} {t : List Cand} (ht : t ∈ tiersOf cands E)
    {a : Cand} (ha : a ∈ t) : a ∈ cands :=
  ((mem_tier ht ha a).1 ha).1

theorem tiers_pairwise (cands : List Cand) (E : Cand → Cand → Bool) :
    (tiersOf cands E).Pairwise (fun t u => ∀ a ∈ t, ∀ b ∈ u, rc cands E b < rc cands E a) := by
  obtain ⟨vals, hv, heq⟩ := tiers_eq cands E
  rw [heq, List.pairwise_map]
  refine hv.imp fun {v u} hvu a ha b hb => ?_
  have h1 := of_decide_eq_true (List.mem_filter.1 ha).2
  have h2 := of_decide_eq_true (List.mem_filter.1 hb).2
  exact_mod_cast (h2.trans_lt hvu).trans_eq h1.symm

/-- **The tiers partition the candidates.** -/
theorem C06_tiers_partition (p : Profile) : (dominatingTiers p).flatten.Perm (graphCands p) :=
  tiers_perm _ _

/-- the pairwise graph is over the declared candidates, or over nobody when there is no ballot -/
theorem graphCands_sublist (p : Profile) : (graphCands p).Sublist p.cands := by
  unfold graphCands; split
  · exact List.nil_sublist _
  · exact List.Sublist.refl _

/-- **Every member of a higher tier strictly beats every member of every lower tier.** -/
theorem C06_beats_lower_tier (p : Profile) :
    (dominatingTiers p).Pairwise (fun t u => ∀ a ∈ t, ∀ b ∈ u, 0 < margin p a b) := by
  refine (tiers_pairwise (graphCands p) (edge p)).imp_of_mem fun {t u} ht hu h a ha b hb => ?_
  have hlt := h a ha b hb
  exact margin_pos_of_not_edge (fun e => hlt.ne' (e ▸ rfl))
    (beats_of_rc_lt (edge_total p _) (tier_subset ht ha) (tier_subset hu hb) hlt).2

/-- **No tier can be split** into a part `A` and a rest such that every member of `A` strictly
beats every member of the rest: some member outside `A` ties or beats a member of `A`. -/
theorem C06_tier_unsplittable (p : Profile) (t : List Cand) (ht : t ∈ dominatingTiers p)
    (A : Cand → Prop) (a b : Cand) (ha : a ∈ t) (hb : b ∈ t) (hA : A a) (hB : ¬ A b) :
    ∃ x ∈ t, ∃ y ∈ t, ¬ A x ∧ A y ∧ 0 ≤ margin p x y := by
  have hmem := mem_tier ht ha
  have hb' := (hmem b).1 hb
  obtain ⟨x, y, hx, hy, hrx, hry, hnx, hay, hE⟩ :=
    tier_unsplittable (edge_total p _) A (tier_subset ht ha) hb'.1 hb'.2.symm hA hB
  exact ⟨x, (hmem x).2 ⟨hx, hrx⟩, y, (hmem y).2 ⟨hy, hry⟩, hnx, hay, ((edge_iff p x y).1 hE).2⟩

theorem top_tier_max (p : Profile) (top : List Cand) (rest : Ranking)
    (h : dominatingTiers p = top :: rest) (x : Cand) (hx : x ∈ top) (d : Cand) (hd : d ∈ graphCands p) :
    rc (graphCands p) (edge p) d ≤ rc (graphCands p) (edge p) x := by
  have htop : top ∈ dominatingTiers p := h ▸ List.mem_cons_self
  have hpw : (dominatingTiers p).Pairwise _ := tiers_pairwise (graphCands p) (edge p)
  have hd' := (C06_tiers_partition p).symm.subset hd
  rw [h, List.flatten_cons, List.mem_append] at hd'
  rw [h, List.pairwise_cons] at hpw
  rcases hd' with hdt | hdr
  · exact ((mem_tier htop hx d).1 hdt).2.le
  · obtain ⟨u, hu, hdu⟩ := List.mem_flatten.1 hdr
    exact (hpw.1 u hu x hx d hdu).le

/-- **The top tier is the Smith set**: it is dominating, and it is contained in every non-empty
dominating set. -/
theorem C06_top_tier_smith (p : Profile) (top : List Cand) (rest : Ranking)
    (h : dominatingTiers p = top :: rest) :
    (∀ a ∈ top, ∀ b ∈ graphCands p, b ∉ top → 0 < margin p a b) ∧
    (∀ D : Cand → Prop, (∃ d ∈ graphCands p, D d) →
      (∀ a ∈ graphCands p, ∀ b ∈ graphCands p, D a → ¬ D b → 0 < margin p a b) →
      ∀ x ∈ top, D x) := by
  constructor
  · intro a ha b hb hnb
    have hbm := (C06_tiers_partition p).symm.subset hb
    rw [h, List.flatten_cons, List.mem_append] at hbm
    obtain ⟨u, hu, hbu⟩ := List.mem_flatten.1 (hbm.resolve_left hnb)
    have hpw := C06_beats_lower_tier p
    rw [h, List.pairwise_cons] at hpw
    exact hpw.1 u hu a ha b hbu
  · intro D ⟨d, hd, hDd⟩ hdom x hx
    by_contra hnx
    -- `x` reaches `d`; where the path enters `D` a member of `D` fails to beat a non-member
    have htop : top ∈ dominatingTiers p := h ▸ List.mem_cons_self
    have hxd := reaches_of_rc_le (edge_total p _) (tier_subset htop hx) hd
      (top_tier_max p top rest h x hx d hd)
    obtain ⟨u, v, _, huv, _, hnu, hDv⟩ := crossing D hxd hnx hDd
    have hpos := hdom v huv.2.1 u huv.1 hDv hnu
    rw [C06_margin_antisymm, neg_pos] at hpos
    exact hpos.not_ge ((edge_iff p u v).1 huv.2.2).2

/-- **The top tier is a single candidate exactly when a Condorcet winner exists** (and it is that
candidate). -/
theorem C06_condorcet_iff (p : Profile) (hnd : (graphCands p).Nodup) (c : Cand) :
    (∃ rest, dominatingTiers p = [c] :: rest) ↔
      c ∈ graphCands p ∧ ∀ d ∈ graphCands p, d ≠ c → 0 < margin p c d := by
  constructor
  · rintro ⟨rest, h⟩
    have htop : [c] ∈ dominatingTiers p := h ▸ List.mem_cons_self
    exact ⟨tier_subset htop List.mem_cons_self, fun d hd hne =>
      (C06_top_tier_smith p [c] rest h).1 c List.mem_cons_self d hd (by simpa using hne)⟩
  · rintro ⟨hc, hwin⟩
    have hpart := C06_tiers_partition p
    cases htiers : dominatingTiers p with
    | nil => rw [htiers] at hpart; exact absurd (hpart.symm.subset hc) List.not_mem_nil
    | cons top rest =>
      refine ⟨rest, ?_⟩
      -- the top tier lies inside the dominating set `{c}`, is not empty and lists nobody twice
      have hall : ∀ x ∈ top, x = c :=
        (C06_top_tier_smith p top rest htiers).2 (· = c) ⟨c, hc, rfl⟩
          fun a _ b hb ha hnb => ha ▸ hwin b hb hnb
      have htop_ne : top ≠ [] :=
        scoreToRanking_groups_nonempty _ top (htiers ▸ List.mem_cons_self)
      have htop_nd : top.Nodup := by
        rw [htiers] at hpart
        exact (List.nodup_flatten.1 (hpart.nodup_iff.2 hnd)).1 top List.mem_cons_self
      rw [List.eq_replicate_of_mem hall] at htop_nd ⊢
      rw [le_antisymm (List.nodup_replicate.1 htop_nd) (List.length_pos_iff.2 htop_ne)]; rfl

/-- **DominatingSets elects exactly the top tier.** -/
theorem C06_dominating_sets_elects_top (p : Profile) (st : States) (h : dominatingSetsRun p = .ok st) :
    ∃ top rest, dominatingTiers p = top :: rest ∧ electedOf st = top ∧ st.length = 2 := by
  unfold dominatingSetsRun at h
  split at h; · cases h
  split at h
  · cases h
  · rename_i t rest heq
    injection h with h; subst h
    exact ⟨t, rest, heq, by simp [electedOf, initialState], rfl⟩

theorem posOfR_eq (r : Ranking) (c : Cand) :
    posOfR r c = if ∃ s ∈ r, c ∈ s then some (r.findIdx (fun s => s.contains c)) else none := by
  simp only [posOfR, List.findIdx_lt_length, List.contains_iff_mem]

theorem posOfR_some_iff {r : Ranking} {c : Cand} {i : Nat} (h : posOfR r c = some i) :
    ∃ s, r[i]? = some s ∧ c ∈ s ∧ ∀ j, j < i → ∀ t, r[j]? = some t → c ∉ t := by
  simp only [posOfR] at h
  split at h
  · rename_i hlt
    injection h with h; subst h
    refine ⟨_, List.getElem?_eq_getElem hlt, by simpa using List.findIdx_getElem (w := hlt), ?_⟩
    intro j hj t ht
    have := List.not_of_lt_findIdx hj
    rw [List.getElem?_eq_getElem (lt_trans hj hlt)] at ht
    simpa [← Option.some.inj ht] using this
  · cases h

/-- **Head-to-head shares, tied positions included**: a listed candidate beats an unlisted one, two
unlisted candidates split the ballot evenly, so do two candidates tied in one position, and two
candidates always share exactly the ballot between them. -/
theorem C06_prefShareR_cases (r : Ranking) (a b : Cand) :
    ((∃ s ∈ r, a ∈ s) → (∀ s ∈ r, b ∉ s) → prefShareR r a b = 1 ∧ prefShareR r b a = 0) ∧
    ((∀ s ∈ r, a ∉ s) → (∀ s ∈ r, b ∉ s) → prefShareR r a b = 1 / 2) ∧
    (∀ i, posOfR r a = some i → posOfR r b = some i → prefShareR r a b = 1 / 2) ∧
    prefShareR r a b + prefShareR r b a = 1 := by
  have hnone : ∀ c, (∀ s ∈ r, c ∉ s) → posOfR r c = none := fun c h => by
    rw [posOfR_eq, if_neg fun ⟨s, hs, hc⟩ => h s hs hc]
  have hhalf : (1 / 2 : Rat) + 1 / 2 = 1 := add_halves 1
  unfold prefShareR
  refine ⟨fun ha hb => ?_, fun ha hb => ?_, fun i hi hj => ?_, ?_⟩
  · rw [posOfR_eq r a, if_pos ha, hnone b hb]; exact ⟨rfl, rfl⟩
  · rw [hnone a ha, hnone b hb]
  · rw [hi, hj]; exact (if_neg (lt_irrefl i)).trans (if_neg (lt_irrefl i))
  · cases posOfR r a <;> cases posOfR r b <;> simp only
    · exact hhalf
    · exact zero_add 1
    · exact add_zero 1
    · rename_i i j
      rcases Nat.lt_trichotomy i j with h | h | h
      · simp only [if_pos h, if_neg (Nat.lt_asymm h), add_zero]
      · simp only [h, lt_irrefl, if_false]; exact hhalf
      · simp only [if_pos h, if_neg (Nat.lt_asymm h), zero_add]

theorem untied_eq_singletons (r : Ranking) (h : ∀ s ∈ r, s.length = 1) : r = r.flatten.map (fun c => [c]) := by
  induction r with
  | nil => rfl
  | cons s rest ih =>
    obtain ⟨c, rfl⟩ := List.length_eq_one_iff.1 (h s List.mem_cons_self)
    rw [List.flatten_cons, List.singleton_append, List.map_cons,
      ← ih fun t ht => h t (List.mem_cons_of_mem _ ht)]

theorem posOfR_singletons (l : List Cand) (c : Cand) : posOfR (l.map fun x => [x]) c = posOf l c := by
  rw [posOfR, posOf, List.findIdx_map, List.length_map]
  have : ((fun s : List Cand => s.contains c) ∘ fun x => [x]) = fun x => decide (x = c) :=
    funext fun x => by simp [eq_comm]
  rw [this]

theorem posOfR_untied (r : Ranking) (h : ∀ s ∈ r, s.length = 1) (c : Cand) :
    posOfR r c = posOf r.flatten c := by
  have := posOfR_singletons r.flatten c
  rwa [← untied_eq_singletons r h] at this

/-- for untied rankings and two different candidates the general share is the flat one -/
theorem prefShareR_eq_flat (r : Ranking) (h : ∀ s ∈ r, s.length = 1) (a b : Cand) (hab : a ≠ b) :
    prefShareR r a b = prefShare r.flatten a b := by
  unfold prefShareR prefShare
  rw [posOfR_untied r h a, posOfR_untied r h b, posOf_eq, posOf_eq]
  by_cases ha : a ∈ r.flatten <;> by_cases hb : b ∈ r.flatten <;> simp only [ha, hb, if_true, if_false]
  -- two different listed candidates do not stand at the same place
  rcases Nat.lt_or_gt_of_ne (findIdx_ne hab ha) with hlt | hlt
  · simp only [if_pos hlt]
  · simp only [if_neg (Nat.lt_asymm hlt), if_pos hlt]

theorem prefShareR_untied (r : Ranking) (h : ∀ s ∈ r, s.length = 1) (hnd : r.flatten.Nodup) (a b : Cand) (hab : a ≠ b) :
    prefShareR r a b = prefShare r.flatten a b :=
  prefShareR_eq_flat r h a b hab

theorem h2h_eq_h2hFlat (p : Profile) (a b : Cand) (hab : a ≠ b)
    (hun : ∀ bl ∈ p.ballots, ∀ s ∈ bl.ranking, s.length = 1) : h2h p a b = h2hFlat p a b :=
  congrArg rsum (List.map_congr_left fun bl hbl => by
    rw [prefShareR_eq_flat bl.ranking (hun bl hbl) a b hab])

theorem h2h_eq_flat (p : Profile) (a b : Cand) (hab : a ≠ b)
    (hun : ∀ bl ∈ p.ballots, ∀ s ∈ bl.ranking, s.length = 1)
    (hrn : ∀ bl ∈ p.ballots, bl.ranking.flatten.Nodup) : h2h p a b = h2hFlat p a b :=
  h2h_eq_h2hFlat p a b hab hun

/-- **The recorded margins are the documented ones.** The code's head-to-head count on the profile
in which every short ballot is replaced by all its completions (`ballot_fill`) equals the
declarative count (listed beats unlisted, two unlisted candidates split evenly) — for every profile
of untied ranked ballots over duplicate-free declared candidates. -/
theorem C06_fill_correct (p : Profile) (a b : Cand) (hc : p.cands.Nodup) (hab : a ≠ b)
    (ha : a ∈ p.cands) (hb : b ∈ p.cands)
    (hrn : ∀ bl ∈ p.ballots, bl.ranking.flatten.Nodup)
    (hrs : ∀ bl ∈ p.ballots, ∀ c ∈ bl.ranking.flatten, c ∈ p.cands)
    (hun : ∀ bl ∈ p.ballots, ∀ s ∈ bl.ranking, s.length = 1) :
    h2hFill p a b = h2h p a b := by
  rw [h2h_eq_h2hFlat p a b hab hun]
  refine h2hFill_eq_h2hFlat p a b hc hab ha hb hrn hrs fun bl hbl => ?_
  conv_lhs => rw [untied_eq_singletons bl.ranking (hun bl hbl)]
  rw [List.length_map]

end VK
