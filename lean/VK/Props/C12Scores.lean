/-
  C12, last clause: expanding tied positions leaves every positional score and every pairwise
  comparison unchanged.

  For every score vector `v` (first-place votes, Borda, any other), every ranking `r` whose tied
  groups list no candidate twice, and every candidate `c`: the points `c` gets from all linear orders
  consistent with `r`, added up, are (number of orders) × the points `r` itself gives `c` (the average
  of the positions its group spans). With the expansion's equal weights w / #orders this says the
  expanded ballots give `c` exactly what the original ballot gave.

  Proof: a swap of two members of one group permutes the orders of that group (`rsum_perms_swap`),
  so all members of a group collect the same total; and within one order the members of the group
  collect exactly the slice of the vector the group spans. The pairwise clause is the same count with
  `sum_before_half` for a group that holds both candidates.
-/
import VK.Props.C12
import VK.Lemmas.Fill
import VK.Model.Gen
import Mathlib.Tactic.Ring
import Mathlib.Tactic.FieldSimp

namespace VK
open Gen

theorem rsum_linearise_cons (s : List Cand) (rest : Ranking) (F : List Cand → Rat) :
    rsum ((linearise (s :: rest)).map F) =
      rsum ((perms s).map fun p => rsum ((linearise rest).map fun t => F (p ++ t))) := by
  rw [linearise, rsum_flatMap]
  simp only [List.map_map, Function.comp_def]

/-- the slice of the vector spanned by `n` positions from `i` -/
def vslice (v : List Rat) (i n : Nat) : Rat := rsum ((v.drop i).take n)

/-- points of `c` under allocation from offset `i` (`ballotPoints` is the case `i = 0`) -/
def ptsFrom (v : List Rat) (i : Nat) (r : Ranking) (c : Cand) : Rat :=
  rsum (((positionAlloc v i r).filter (fun sa => sa.1.contains c)).map (·.2))

theorem ballotPoints_eq (v : List Rat) (r : Ranking) (c : Cand) : ballotPoints v r c = ptsFrom v 0 r c := rfl

theorem ptsFrom_nil (v : List Rat) (i : Nat) (c : Cand) : ptsFrom v i [] c = 0 := rfl

theorem ptsFrom_cons (v : List Rat) (i : Nat) (s : List Cand) (rest : Ranking) (c : Cand) :
    ptsFrom v i (s :: rest) c =
      (if s.contains c then vslice v i s.length / (s.length : Rat) else 0) + ptsFrom v (i + s.length) rest c := by
  unfold ptsFrom
  simp only [positionAlloc, List.filter_cons]
  split
  · rfl
  · exact (zero_add _).symm

theorem vslice_succ (v : List Rat) (i n : Nat) : vslice v i (n + 1) = vslice v i 1 + vslice v (i + 1) n := by
  unfold vslice
  rw [← List.drop_drop]
  cases v.drop i <;> simp

theorem ptsFrom_sing_cons (v : List Rat) (i : Nat) (x : Cand) (o : List Cand) (c : Cand) :
    ptsFrom v i (singletons (x :: o)) c = (if x = c then vslice v i 1 else 0) + ptsFrom v (i + 1) (singletons o) c := by
  rw [show singletons (x :: o) = [x] :: singletons o from rfl, ptsFrom_cons]
  simp [eq_comm]

theorem ptsFrom_sing_append (v : List Rat) (p t : List Cand) (c : Cand) : ∀ i,
    ptsFrom v i (singletons (p ++ t)) c = ptsFrom v i (singletons p) c + ptsFrom v (i + p.length) (singletons t) c := by
  induction p with
  | nil => intro i; simp [singletons, ptsFrom_nil]
  | cons x xs ih =>
    intro i
    rw [List.cons_append, ptsFrom_sing_cons, ptsFrom_sing_cons, ih (i + 1), List.length_cons,
      Nat.add_right_comm, Nat.add_assoc i, add_assoc]

theorem ptsFrom_sing_not_mem (v : List Rat) (o : List Cand) (c : Cand) (h : c ∉ o) : ∀ i,
    ptsFrom v i (singletons o) c = 0 := by
  induction o with
  | nil => intro i; rfl
  | cons x xs ih =>
    intro i
    rw [ptsFrom_sing_cons, ih (fun hc => h (List.mem_cons_of_mem _ hc)),
      if_neg (fun e : x = c => h (e ▸ List.mem_cons_self)), add_zero]

theorem ptsFrom_sing_map (v : List Rat) (f : Cand → Cand) (hf : Function.Injective f) (o : List Cand) (c : Cand) : ∀ i,
    ptsFrom v i (singletons (o.map f)) (f c) = ptsFrom v i (singletons o) c := by
  induction o with
  | nil => intro i; rfl
  | cons x xs ih =>
    intro i
    rw [List.map_cons, ptsFrom_sing_cons, ptsFrom_sing_cons, ih]
    simp only [hf.eq_iff]

theorem sum_ptsFrom_self (v : List Rat) (o : List Cand) (hn : o.Nodup) : ∀ i,
    rsum (o.map (fun c => ptsFrom v i (singletons o) c)) = vslice v i o.length := by
  induction o with
  | nil => intro i; simp [vslice]
  | cons x xs ih =>
    intro i
    rw [List.nodup_cons] at hn
    have : xs.map (fun c => ptsFrom v i (singletons (x :: xs)) c) = xs.map (fun c => ptsFrom v (i + 1) (singletons xs) c) :=
      List.map_congr_left fun c hc => by
        rw [ptsFrom_sing_cons, if_neg (fun e : x = c => hn.1 (e ▸ hc)), zero_add]
    rw [List.map_cons, rsum_cons, this, ih hn.2, ptsFrom_sing_cons, ptsFrom_sing_not_mem v xs x hn.1,
      if_pos rfl, add_zero, List.length_cons, vslice_succ v i xs.length]

/-- **One tied group.** Over all orders of a duplicate-free group `s` placed at offset `i`, a member
collects `|s|!` times the average of the slice; a non-member nothing. -/
theorem group_points (v : List Rat) (i : Nat) (s : List Cand) (hs : s.Nodup) (c : Cand) :
    rsum ((perms s).map (fun p => ptsFrom v i (singletons p) c)) =
      if s.contains c then (fact s.length : Rat) * (vslice v i s.length / (s.length : Rat)) else 0 := by
  simp only [List.contains_iff_mem]
  split_ifs with hc
  · let T : Cand → Rat := fun a => rsum ((perms s).map (fun p => ptsFrom v i (singletons p) a))
    -- all members collect the same total: swap the member with `c` in every order
    have hsym : ∀ a ∈ s, T a = T c := fun a ha =>
      (rsum_perms_swap (fun p => ptsFrom v i (singletons p) a) hs ha hc).symm.trans
        (congrArg rsum (List.map_congr_left fun p _ => by
          have := ptsFrom_sing_map v _ (Equiv.swap a c).injective p c i
          rwa [Equiv.swap_apply_right] at this))
    -- the members together collect the slice, in every order
    have htot : rsum (s.map T) = (fact s.length : Rat) * vslice v i s.length := by
      have : ∀ p ∈ perms s, rsum (s.map (fun a => ptsFrom v i (singletons p) a)) = vslice v i s.length := by
        intro p hp
        have hpp := (mem_perms_iff s p).1 hp
        rw [rsum_map_perm hpp.symm _, sum_ptsFrom_self v p (hpp.nodup_iff.2 hs) i, hpp.length_eq]
      rw [rsum_comm, List.map_congr_left this, rsum_const_mul, perms_length]
    have hlen : (s.length : Rat) ≠ 0 := Nat.cast_ne_zero.2 (List.length_pos_of_mem hc).ne'
    rw [List.map_congr_left hsym, rsum_const_mul] at htot
    rw [mul_div_assoc', ← htot, mul_div_cancel_left₀ _ hlen]
  · exact (congrArg rsum (List.map_congr_left fun p hp =>
      ptsFrom_sing_not_mem v p c (fun h => hc (((mem_perms_iff s p).1 hp).mem_iff.1 h)) i)).trans
      (rsum_map_zero _)

/-- **Expansion keeps every positional score** (offset form). -/
theorem expand_points_from (v : List Rat) (r : Ranking) (hr : ∀ s ∈ r, s.Nodup) (c : Cand) : ∀ i,
    rsum ((linearise r).map (fun o => ptsFrom v i (singletons o) c)) =
      ((linearise r).length : Rat) * ptsFrom v i r c := by
  induction r with
  | nil => intro i; simp [linearise, singletons, ptsFrom_nil]
  | cons s rest ih =>
    intro i
    -- an order of `s :: rest` is an order `p` of `s` followed by an order `t` of `rest`, and the
    -- points split accordingly
    have hsplit : ∀ p ∈ perms s, rsum ((linearise rest).map fun t => ptsFrom v i (singletons (p ++ t)) c) =
        ((linearise rest).length : Rat) * ptsFrom v i (singletons p) c +
          ((linearise rest).length : Rat) * ptsFrom v (i + s.length) rest c := fun p hp => by
      simp only [ptsFrom_sing_append, ((mem_perms_iff s p).1 hp).length_eq]
      rw [rsum_map_add, rsum_const_mul, ih (fun s' hs' => hr s' (List.mem_cons_of_mem _ hs'))]
    rw [rsum_linearise_cons, List.map_congr_left hsplit, rsum_map_add, rsum_map_mul_left, rsum_const_mul,
      group_points v i s (hr s List.mem_cons_self) c, perms_length, linearise_length_cons, ptsFrom_cons]
    push_cast
    split_ifs <;> ring

/-- **Expanding ties leaves every positional score unchanged.** For any score vector (first-place
votes, Borda, …): the points candidate `c` receives from the expanded ballots, each weighted
`w / #orders`, equal the points the original ballot gives it. -/
theorem C12_expand_keeps_positional_scores (v : List Rat) (b : Ballot) (out : List Ballot)
    (hr : ∀ s ∈ b.ranking, s.Nodup) (h : expandTied b = .ok out) (c : Cand) :
    rsum (out.map (fun x => ballotPoints v x.ranking c * x.weight)) = ballotPoints v b.ranking c * b.weight := by
  rcases expandTied_ok h with ⟨_, rfl⟩ | ⟨_, rfl⟩
  · simp
  · simp only [ballotPoints_eq]
    exact rsum_expand b (ptsFrom v 0 · c) _ (expand_points_from v b.ranking hr c 0)

/-- what a ranking with ties says about "a over b" (both listed): earlier group wins, same group splits -/
def tiedShare : Ranking → Cand → Cand → Rat
  | [], _, _ => 0
  | s :: rest, a, b =>
    if s.contains a then (if s.contains b then 1 / 2 else 1)
    else if s.contains b then 0
    else tiedShare rest a b

/-- **Expansion keeps pairwise comparisons.** Over all linear orders consistent with `r`, the number
that put `a` before `b` is (number of orders) × 1, 1/2 or 0 according to whether `a`'s group comes
before, is, or comes after `b`'s group. -/
theorem expand_pairwise (r : Ranking) (hr : ∀ s ∈ r, s.Nodup) (a b : Cand) (hab : a ≠ b)
    (ha : a ∈ r.flatten) (hb : b ∈ r.flatten) :
    rsum ((linearise r).map (fun o => beforeIn o a b)) = ((linearise r).length : Rat) * tiedShare r a b := by
  induction r with
  | nil => cases ha
  | cons s rest ih =>
    have hs := hr s List.mem_cons_self
    have hmem : ∀ p ∈ perms s, ∀ x, x ∈ p ↔ x ∈ s := fun p hp x => ((mem_perms_iff s p).1 hp).mem_iff
    -- the group `s` decides as soon as it lists one of the two; otherwise the rest decides
    have hsplit : ∀ p ∈ perms s, rsum ((linearise rest).map fun t => beforeIn (p ++ t) a b) =
        if a ∈ s ∨ b ∈ s then ((linearise rest).length : Rat) * beforeIn p a b
        else rsum ((linearise rest).map fun t => beforeIn t a b) := fun p hp => by
      simp only [beforeIn_append, hmem p hp]
      split_ifs
      · exact rsum_const_mul _ _
      · rfl
    rw [rsum_linearise_cons, List.map_congr_left hsplit, linearise_length_cons, tiedShare]
    simp only [List.contains_iff_mem]
    push_cast
    by_cases has : a ∈ s <;> by_cases hbs : b ∈ s <;>
      simp only [has, hbs, or_self, or_true, true_or, if_true, if_false]
    · rw [rsum_map_mul_left, ← perms_length, ← sum_before_half s a b hab hs has hbs]; ring
    · rw [List.map_congr_left fun p hp => by
        rw [beforeIn_of_mem_of_not_mem ((hmem p hp a).2 has) (mt (hmem p hp b).1 hbs)],
        rsum_const_mul, perms_length]; ring
    · rw [List.map_congr_left fun p hp => by rw [beforeIn_of_not_mem (mt (hmem p hp a).1 has)],
        rsum_const_mul]; ring
    · rw [List.flatten_cons, List.mem_append] at ha hb
      rw [rsum_const_mul, perms_length, ih (fun s' hs' => hr s' (List.mem_cons_of_mem _ hs'))
        (ha.resolve_left has) (hb.resolve_left hbs)]; ring

theorem linearise_untied (r : Ranking) (h : ∀ s ∈ r, s.length = 1) : linearise r = [r.flatten] := by
  induction r with
  | nil => rfl
  | cons s rest ih =>
    obtain ⟨c, rfl⟩ := List.length_eq_one_iff.1 (h s List.mem_cons_self)
    rw [linearise, ih fun t ht => h t (List.mem_cons_of_mem _ ht)]
    rfl

/-- **Expanding ties leaves pairwise totals unchanged**: the weight of the expanded ballots that rank
`a` before `b` is the original weight times 1, 1/2 or 0 (earlier group, same group, later group). A
ballot without ties is returned as it is, and is its own only order. -/
theorem expandTied_keeps_pairwise (b : Ballot) (out : List Ballot) (hr : ∀ s ∈ b.ranking, s.Nodup)
    (h : expandTied b = .ok out) (x y : Cand) (hxy : x ≠ y)
    (hx : x ∈ b.ranking.flatten) (hy : y ∈ b.ranking.flatten) :
    rsum (out.map (fun o => beforeIn o.ranking.flatten x y * o.weight)) = tiedShare b.ranking x y * b.weight := by
  have hp := expand_pairwise b.ranking hr x y hxy hx hy
  rcases expandTied_ok h with ⟨hu, rfl⟩ | ⟨_, rfl⟩
  · rw [linearise_untied b.ranking fun s hs => of_decide_eq_true (List.all_eq_true.1 hu s hs)] at hp
    rw [List.map_singleton, rsum_cons, rsum_nil, add_zero] at hp ⊢
    rw [hp, List.length_singleton, Nat.cast_one, one_mul]
  · refine rsum_expand b (fun r => beforeIn r.flatten x y) _ ?_
    simp only [← List.flatMap_def, List.flatMap_singleton']
    exact hp

theorem C12_expand_keeps_pairwise (b : Ballot) (out : List Ballot) (hr : ∀ s ∈ b.ranking, s.Nodup)
    (hties : ¬ b.ranking.all (fun s => s.length = 1)) (h : expandTied b = .ok out) (x y : Cand) (hxy : x ≠ y)
    (hx : x ∈ b.ranking.flatten) (hy : y ∈ b.ranking.flatten) :
    rsum (out.map (fun o => beforeIn o.ranking.flatten x y * o.weight)) = tiedShare b.ranking x y * b.weight :=
  expandTied_keeps_pairwise b out hr h x y hxy hx hy

-- non-vacuity: {0,1} > 2 with vector (3,2,1): candidate 0 gets (3+2)/2 from the tied ballot and from its expansion
example : ballotPoints [3, 2, 1] [[0, 1], [2]] 0 = 5 / 2 := by decide +kernel
example : rsum ((linearise [[0, 1], [2]]).map (fun o => ballotPoints [3, 2, 1] (singletons o) 0)) = 5 := by decide +kernel

end VK
