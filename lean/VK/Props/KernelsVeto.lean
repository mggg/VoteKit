/-
  PluralityVeto's kernels regenerated from /repo's current source (the decrement, the
  strike test, the final-round test) are the ones the model (Model/Veto.lean) uses; the zero-tally test of
  round 1 selects `zeroOf`, the list under which the C01 theorems speak of the candidates `pvRound` drops
  in round 1 (`pvRound_ok`).
-/
import VK.Model.Generated.Veto
import VK.Model.Veto
import VK.Props.C01Veto

namespace VK

/-- one veto takes exactly the source's decrement off the candidate's tally -/
theorem kernel_veto_decrement (c : Cand) (s : Rat) (rest : List (Cand × Rat)) :
    decScore c ((c, s) :: rest) = .ok ((c, Generated.vetoDecrement s) :: rest, Generated.vetoDecrement s) := by
  unfold decScore Generated.vetoDecrement
  simp

/-- the source's strike test is the model's `v ≤ 0` -/
theorem kernel_veto_struck (v : Rat) : Generated.vetoStruck v = decide (v ≤ 0) := by
  unfold Generated.vetoStruck
  first
    | rfl
    | simp

/-- round 1 drops exactly the candidates the source's zero-tally test selects -/
theorem kernel_veto_zero (prev : RoundState) (h0 : prev.round = 0) :
    zeroOf prev = (prev.scores.filter (fun cs => Generated.zeroTally cs.2)).map (·.1) := by
  unfold zeroOf Generated.zeroTally
  simp only [h0, if_true]

/-- the source's final-round test is the model's comparison of the standing candidates with the seats -/
theorem kernel_veto_final (standing m : Nat) : Generated.vetoFinal standing m = decide (standing = m) := by
  unfold Generated.vetoFinal
  rw [Bool.eq_iff_iff]
  simp only [decide_eq_true_eq]
  constructor
  · intro h; exact_mod_cast h
  · intro h; exact_mod_cast h

end VK
