/-
  C16 — restricting a Plackett–Luce order to a slate is Plackett–Luce on that slate's supports
  (the marginalisation identity of successive sampling). This is the law behind CambridgeSampler's
  `[c for c in pl_ordering if c in slate]`: the order drawn on the combined interval, read on one
  slate, is distributed as a draw from that slate's own (renormalised) interval.
-/
import VK.Props.C16

namespace VK
open Gen Dist

theorem filter_dropCand_of_not (S : Cand → Bool) (c : Cand) (x : List (Cand × Rat)) (h : S c = false) :
    (dropCand c x).filter (fun e => S e.1) = x.filter (fun e => S e.1) := by
  induction x with
  | nil => rfl
  | cons e es ih =>
    unfold dropCand
    by_cases he : e.1 = c
    · simp [he, h]
    · simp only [he, if_false, List.filter_cons, ih]

theorem filter_dropCand_of_mem (S : Cand → Bool) (c : Cand) (x : List (Cand × Rat)) (h : S c = true) :
    (dropCand c x).filter (fun e => S e.1) = dropCand c (x.filter (fun e => S e.1)) := by
  induction x with
  | nil => rfl
  | cons e es ih =>
    by_cases he : e.1 = c
    · have hs : S e.1 = true := he ▸ h
      simp [dropCand, he, h]
    · by_cases hs : S e.1 = true
      · simp [dropCand, he, hs, ih]
      · simp [dropCand, he, hs, ih]

/-- the term of a slate member `c` drawn first: the rest, read on the slate, must give `r` minus its head -/
theorem evProb_filter_cons_of_mem (S : Cand → Bool) (c : Cand) (hc : S c = true) (d : Dist (List Cand)) (dS : Dist (List Cand))
    (ih : ∀ r', evProb d (fun o => decide (o.filter S = r')) = dS.prob r') (r : List Cand) :
    evProb d (fun o => decide ((c :: o).filter S = r)) = (Dist.bind dS (fun r' => Dist.pure (c :: r'))).prob r := by
  simp only [List.filter_cons, hc, if_true]
  cases r with
  | nil => simp only [prob_bind_cons_nil, reduceCtorEq, decide_false, evProb_false]
  | cons c0 r' =>
    rw [prob_bind_cons, ← ih r']
    by_cases h0 : c = c0
    · simp only [h0, List.cons.injEq, true_and, if_true]
    · simp only [h0, List.cons.injEq, false_and, decide_false, evProb_false, if_false]

/-- total probability over the first draw, cleared of its denominator: `Σ_e x_e · P(r | e first) = Σ x · P(r)` -/
theorem plDist_prob_first (x : List (Cand × Rat)) (hpos : ∀ e ∈ x, (0 : Rat) < e.2) (r : List Cand) :
    rsum (x.map fun e => e.2 *
        (Dist.bind (plDist (x.length - 1) (dropCand e.1 x)) (fun r' => Dist.pure (e.1 :: r'))).prob r) =
      rsum (x.map (·.2)) * (plDist x.length x).prob r := by
  by_cases hx : x = []
  · rw [hx]; exact (zero_mul _).symm
  · obtain ⟨k, hk⟩ := Nat.exists_eq_add_one.2 (List.length_pos_iff.2 hx)
    rw [hk, Nat.add_sub_cancel, plDist, prob_bind_weighted, mul_div_cancel₀ _ (rsum_pos_of_pos x hx hpos).ne']

/-- **Restriction of Plackett–Luce is Plackett–Luce.** Draw a full order by successive sampling from
duplicate-free positive supports `x` and keep only the candidates of a slate `S`, in the drawn order:
the result `r` has exactly the probability successive sampling from the slate's own supports gives it. -/
theorem C16_pl_restriction (S : Cand → Bool) : ∀ (n : Nat) (x : List (Cand × Rat)), x.length = n →
    (x.map (·.1)).Nodup → (∀ e ∈ x, (0 : Rat) < e.2) → ∀ r : List Cand,
    evProb (plDist n x) (fun o => decide (o.filter S = r)) =
      (plDist (x.filter (fun e => S e.1)).length (x.filter (fun e => S e.1))).prob r := by
  intro n
  induction n with
  | zero =>
    intro x hx _ _ r
    rw [List.length_eq_zero_iff.1 hx]
    rfl
  | succ n ih =>
    intro x hx hn hpos r
    have hT : 0 < rsum (x.map (·.2)) := rsum_pos_of_pos x (by rintro rfl; cases hx) hpos
    generalize hxS : x.filter (fun e => S e.1) = xS
    generalize hPS : (plDist xS.length xS).prob r = PS
    -- `A e`: the probability of `r` on the slate once its member `e` has been drawn first
    let A : Cand × Rat → Rat := fun e =>
      (Dist.bind (plDist (xS.length - 1) (dropCand e.1 xS)) (fun r' => Dist.pure (e.1 :: r'))).prob r
    -- drawing `e` first: a member of the slate starts the restricted order, anyone else leaves it to the rest
    have hterm : ∀ e ∈ x, evProb (Dist.bind (plDist n (dropCand e.1 x)) (fun r' => Dist.pure (e.1 :: r')))
        (fun o => decide (o.filter S = r)) = if S e.1 then A e else PS := by
      intro e he
      have hmem : e.1 ∈ x.map (·.1) := List.mem_map.2 ⟨e, he, rfl⟩
      have hsub := dropCand_sublist e.1 x
      have ih' := ih (dropCand e.1 x) (Nat.succ.inj ((dropCand_length e.1 x hmem).trans hx)) ((hsub.map _).nodup hn)
        (fun e' he' => hpos e' (hsub.subset he'))
      rw [evProb_bind_pure]
      cases hs : S e.1 with
      | true =>
        have hmemS : e.1 ∈ xS.map (·.1) := List.mem_map.2 ⟨e, hxS ▸ List.mem_filter.2 ⟨he, hs⟩, rfl⟩
        refine evProb_filter_cons_of_mem S e.1 hs _ _ (fun r' => ?_) r
        rw [ih' r', filter_dropCand_of_mem S e.1 x hs, hxS]
        rw [← dropCand_length e.1 xS hmemS, Nat.add_sub_cancel]
      | false =>
        simp only [List.filter_cons, hs, Bool.false_eq_true, if_false]
        rw [ih' r, filter_dropCand_of_not S e.1 x hs, hxS, hPS]
    -- on the slate itself the first draw gives `Σ_{e ∈ S} x_e · A e = Σ_S · PS`
    have hS : rsum (xS.map (fun e => e.2 * A e)) = rsum (xS.map (·.2)) * PS := by
      rw [← hPS]
      exact plDist_prob_first xS (fun e he => hpos e (List.mem_filter.1 (hxS ▸ he)).1) r
    -- so the members of the slate contribute `Σ_S · PS` and the others `(Σ - Σ_S) · PS`
    have hsum : rsum (x.map (fun e => e.2 * if S e.1 then A e else PS)) = rsum (x.map (·.2)) * PS := by
      simp only [mul_ite]
      rw [rsum_map_ite_split, hxS, hS, rsum_map_mul_right, ← add_mul,
        ← rsum_filter_add_filter_not x (fun e => S e.1) (·.2), hxS]
    rw [plDist, evProb_bind_weighted, List.map_congr_left (fun e he => congrArg (e.2 * ·) (hterm e he)),
      hsum, mul_div_cancel_left₀ _ hT.ne']

theorem C16_PLRestrictionConsistent : PLRestrictionConsistent := by
  intro x slate r hn hpos
  exact C16_pl_restriction (fun c => slate.contains c) x.length x rfl hn hpos r

-- a concrete instance: supports 1/2, 1/4, 1/4; dropping candidate 1 leaves the order [2, 0] with
-- probability (1/4)/(3/4) = 1/3, computed on the full three-candidate law
example : evProb (plDist 3 [(0, 1/2), (1, 1/4), (2, 1/4)]) (fun o => decide (o.filter (· != 1) = [2, 0])) = 1/3 := by
  decide +kernel

end VK
