/-
  Property C05 — score-ballot elections enforce their limits; an accepted profile is scored by
  weight × score (`C05_totals`) and handed to the "score, then elect the top m" election of C04
  (`C05_accept`).
-/
import VK.Props.C04Top
import VK.Model.Rules
import VK.Lemmas.Sum
import VK.Lemmas.Outcome

namespace VK

/-- **A ballot passes the validator iff it carries scores, every score lies in `[0, L]`, and —
when a budget is given — the scores sum to at most the budget** (all boundaries inclusive). -/
theorem C05_ballot_ok_iff (L : Rat) (k : Option Rat) (b : Ballot) :
    ratingBallotOk L k b = true ↔
      b.scores ≠ [] ∧ (∀ cs ∈ b.scores, 0 ≤ cs.2 ∧ cs.2 ≤ L) ∧
      (∀ kk, k = some kk → rsum (b.scores.map (·.2)) ≤ kk) := by
  unfold ratingBallotOk
  cases k with
  | none =>
    simp only [Bool.and_true, Bool.and_eq_true, Bool.not_eq_true', List.isEmpty_eq_false_iff,
      List.all_eq_true, decide_eq_true_eq]
    constructor
    · rintro ⟨⟨h1, h2⟩, h3⟩
      exact ⟨h1, fun cs h => ⟨h3 cs h, h2 cs h⟩, fun kk hk => by cases hk⟩
    · rintro ⟨h1, h2, _⟩
      exact ⟨⟨h1, fun cs h => (h2 cs h).2⟩, fun cs h => (h2 cs h).1⟩
  | some kk =>
    simp only [Bool.and_eq_true, Bool.not_eq_true', List.isEmpty_eq_false_iff,
      List.all_eq_true, decide_eq_true_eq]
    constructor
    · rintro ⟨⟨⟨h1, h2⟩, h3⟩, h4⟩
      exact ⟨h1, fun cs h => ⟨h3 cs h, h2 cs h⟩, fun k' hk => by cases hk; exact h4⟩
    · rintro ⟨h1, h2, h3⟩
      exact ⟨⟨⟨h1, fun cs h => (h2 cs h).2⟩, fun cs h => (h2 cs h).1⟩, h3 kk rfl⟩

/-- **A profile all of whose ballots pass the validator is accepted**: the run is exactly the
"score, then elect the top m" computation on the ballot scores. (Argument errors — `m ≤ 0`,
`L ≤ 0`, bad `k` — are ValueError and come first, see C20.) -/
theorem C05_accept (p : Profile) (m : Int) (L : Rat) (k : Option Rat) (tb : Option TB)
    (pri : List Cand) (hargs : ratingArgsOk m L k = true)
    (hall : ∀ b ∈ p.ballots, ratingBallotOk L (effectiveBudget k) b = true) :
    generalRatingRun p m L k tb pri = topMRun p m.toNat tb pri scoreFromBallotScores := by
  simp [generalRatingRun, hargs, List.all_eq_true.2 hall]

theorem generalRatingRun_ok {p : Profile} {m : Int} {L : Rat} {k : Option Rat} {tb : Option TB}
    {pri : List Cand} {st : States} (h : generalRatingRun p m L k tb pri = .ok st) :
    topMRun p m.toNat tb pri scoreFromBallotScores = .ok st :=
  (Outcome.ite_raised_eq_ok.1 (Outcome.ite_raised_eq_ok.1 h).2).2

/-- rejection of an invalid ballot is a TypeError, whatever the rest of the profile looks like -/
theorem C05_reject_is_typeError (p : Profile) (m : Int) (L : Rat) (k : Option Rat) (tb : Option TB)
    (pri : List Cand) (hargs : ratingArgsOk m L k = true) (b : Ballot) (hb : b ∈ p.ballots)
    (hbad : ratingBallotOk L (effectiveBudget k) b = false) :
    generalRatingRun p m L k tb pri = .raised .typeError := by
  have : p.ballots.all (ratingBallotOk L (effectiveBudget k)) = false :=
    List.all_eq_false.2 ⟨b, hb, by simp [hbad]⟩
  simp [generalRatingRun, hargs, this]

/-- **Totals.** When `score_profile_from_ballot_scores` returns, each declared candidate's total is
the sum over ballots of weight × (that ballot's score for the candidate). -/
theorem C05_totals (p : Profile) (sc : List (Cand × Rat)) (h : scoreFromBallotScores p = .ok sc) :
    sc = p.cands.map (fun c => (c, rsum (p.ballots.map (fun b =>
      rsum ((b.scores.filter (fun cs => cs.1 = c)).map (·.2)) * b.weight)))) := by
  simp only [scoreFromBallotScores, Outcome.ite_raised_eq_ok, Outcome.ok.injEq] at h
  exact h.2.2.symm

theorem scoreFromBallotScores_keys (p : Profile) (sc : List (Cand × Rat))
    (h : scoreFromBallotScores p = .ok sc) : sc.map (·.1) = p.cands := by
  rw [C05_totals p sc h, List.map_map]
  exact List.map_id _

/-- the subclasses are the documented instances of the general rule -/
theorem C05_subclass_params (p : Profile) (m : Int) (L : Rat) (k : Option Rat) (tb : Option TB)
    (pri : List Cand) :
    scoreRuleRun .rating p m L k tb pri = generalRatingRun p m L none tb pri ∧
    scoreRuleRun .approval p m L k tb pri = generalRatingRun p m 1 none tb pri ∧
    scoreRuleRun .cumulative p m L k tb pri = generalRatingRun p m m (some m) tb pri ∧
    (∀ kk, k = some kk → kk ≤ m →
      scoreRuleRun .limited p m L k tb pri = generalRatingRun p m kk (some kk) tb pri) ∧
    (∀ kk, k = some kk → (m : Rat) < kk → scoreRuleRun .limited p m L k tb pri = .raised .valueError) ∧
    (k = none → scoreRuleRun .bloc p m L k tb pri = generalRatingRun p m 1 (some m) tb pri) := by
  refine ⟨rfl, rfl, rfl, ?_, ?_, ?_⟩
  · intro kk hk hle; subst hk
    simp [scoreRuleRun, not_lt.2 hle]
  · intro kk hk hlt; subst hk
    simp [scoreRuleRun, hlt]
  · intro hk; subst hk; simp [scoreRuleRun]

/-- non-vacuity: a ballot at both limits passes, one 1/10^6 above the budget does not -/
example : ratingBallotOk 1 (some 2) { scores := [(0, 1), (1, 1)] } = true ∧
    ratingBallotOk 1 (some 2) { scores := [(0, 1), (1, 1), (2, 1 / 1000000)] } = false := by
  decide +kernel

end VK
