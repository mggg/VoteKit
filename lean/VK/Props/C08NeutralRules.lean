/-
  C08, neutrality of the single-round rules (Plurality, SNTV, Borda, the six score-ballot classes) and of the
  composites built from them (TopTwo, Alaska).
-/
import VK.Props.C08Neutral
namespace VK

def renStates (π : Cand → Cand) (st : States) : States := st.map (renRS π)

section
variable (π : Cand → Cand) (hπ : Function.Injective π)
include hπ

theorem topMRun_ren (p : Profile) (m : Nat) (tb : Option TB) (pri : List Cand)
    (score : Profile → Outcome (List (Cand × Rat)))
    (hscore : ∀ q, score (renP π q) = (score q).map (renSc π)) :
    topMRun (renP π p) m tb (pri.map π) score = (topMRun p m tb pri score).map (renStates π) := by
  rw [topMRun_eq, topMRun_eq]
  refine Outcome.bind_map_comm _ (hscore p) fun sc0 _ => ?_
  rw [renP_cands, initialState_ren, renRS_remaining]
  exact electRound_ren π hπ p m tb pri score hscore _ _

theorem C08_plurality_neutral (p : Profile) (m : Nat) (tb : Option TB) (pri : List Cand) :
    pluralityRun (renP π p) m tb (pri.map π) = (pluralityRun p m tb pri).map (renStates π) := by
  unfold pluralityRun
  rw [rankingValid_ren]
  exact Outcome.ite_map rfl (topMRun_ren π hπ p m tb pri _ (firstPlaceVotes_ren π hπ))

theorem C08_sntv_neutral (p : Profile) (m : Nat) (tb : Option TB) (pri : List Cand) :
    sntvRun (renP π p) m tb (pri.map π) = (sntvRun p m tb pri).map (renStates π) :=
  C08_plurality_neutral π hπ p m tb pri

theorem C08_borda_neutral (p : Profile) (m : Nat) (v : Option (List Rat)) (tb : Option TB) (pri : List Cand) :
    bordaRun (renP π p) m v tb (pri.map π) = (bordaRun p m v tb pri).map (renStates π) := by
  unfold bordaRun
  rw [rankingValid_ren, renP_cands, List.length_map]
  exact Outcome.ite_map rfl (Outcome.ite_map rfl
    (topMRun_ren π hπ p m tb pri _ fun q => scoreFromRankings_ren π hπ q _))

omit hπ in
theorem ratingBallotOk_ren (L : Rat) (k : Option Rat) (b : Ballot) :
    ratingBallotOk L k (renB π b) = ratingBallotOk L k b := by
  simp only [ratingBallotOk, renB_scores, renSc, List.isEmpty_map, List.all_map, List.map_map, Function.comp_def]

theorem C08_rating_neutral (p : Profile) (m : Int) (L : Rat) (k : Option Rat) (tb : Option TB) (pri : List Cand) :
    generalRatingRun (renP π p) m L k tb (pri.map π) = (generalRatingRun p m L k tb pri).map (renStates π) := by
  unfold generalRatingRun
  simp only [renP_ballots, List.all_map, Function.comp_def, ratingBallotOk_ren]
  exact Outcome.ite_map rfl (Outcome.ite_map rfl
    (topMRun_ren π hπ p m.toNat tb pri _ (scoreFromBallotScores_ren π hπ)))

/-- the six score-ballot classes -/
theorem C08_scorerule_neutral (rule : ScoreRule) (p : Profile) (m : Int) (L : Rat) (k : Option Rat) (tb : Option TB)
    (pri : List Cand) :
    scoreRuleRun rule (renP π p) m L k tb (pri.map π) = (scoreRuleRun rule p m L k tb pri).map (renStates π) := by
  cases rule with
  | limited => exact Outcome.ite_map rfl (C08_rating_neutral π hπ p m _ _ tb pri)
  | _ => exact C08_rating_neutral π hπ p m _ _ tb pri

def renStage (π : Cand → Cand) (x : RoundState × RoundState × Profile) : RoundState × RoundState × Profile :=
  (renRS π x.1, renRS π x.2.1, renP π x.2.2)

theorem finalistStage_ren (p : Profile) (k : Nat) (tb : Option TB) (pri : List Cand) :
    finalistStage (renP π p) k tb (pri.map π) = (finalistStage p k tb pri).map (renStage π) := by
  unfold finalistStage
  refine Outcome.bind_map_comm _ (firstPlaceVotes_ren π hπ p) fun sc0 _ => ?_
  refine Outcome.bind_map_comm _ (C08_plurality_neutral π hπ p k tb pri) fun pl _ => ?_
  match pl with
  | [] | [_] | _ :: _ :: _ :: _ => rfl
  | [s0, s1] =>
    simp only [renStates, List.map_cons, List.map_nil, renRS_remaining, flatten_renR, removeCand_ren π hπ]
    refine Outcome.bind_map_comm _ (firstPlaceVotes_ren π hπ _) fun sc1 _ => ?_
    rw [renP_cands, initialState_ren]
    rfl

theorem C08_toptwo_neutral (p : Profile) (tb : Option TB) (pri : Nat → List Cand) :
    topTwoRun (renP π p) tb (fun r => (pri r).map π) = (topTwoRun p tb pri).map (renStates π) := by
  unfold topTwoRun
  rw [rankingValid_ren]
  refine Outcome.ite_map rfl ?_
  refine Outcome.bind_map_comm _ (finalistStage_ren π hπ p 2 tb (pri 1)) fun ⟨st0, st1, p1⟩ _ => ?_
  refine Outcome.bind_map_comm _ (C08_plurality_neutral π hπ p1 1 tb (pri 2)) fun pl _ => ?_
  match pl with
  | [] | [_] | [_, _] | _ :: _ :: _ :: _ => rfl

theorem C08_alaska_neutral (p : Profile) (m1 m2 : Int) (cfg : STVCfg) (ω ω' : STVOracle) (hω : RenOracle π ω ω')
    (quotaOk : Bool) :
    alaskaRun (renP π p) m1 m2 cfg ω' quotaOk = (alaskaRun p m1 m2 cfg ω quotaOk).map (renStates π) := by
  unfold alaskaRun
  rw [rankingValid_ren, hω.pri]
  refine Outcome.ite_map rfl (Outcome.ite_map rfl ?_)
  refine Outcome.bind_map_comm _ (finalistStage_ren π hπ p m1.toNat cfg.tiebreak (ω.pri 1)) fun ⟨st0, st1, p1⟩ _ => ?_
  refine Outcome.bind_map_comm _ (C08_stv_neutral π hπ _ p1 _ _ ⟨fun r => hω.pri (r + 1), fun r => hω.sample (r + 1)⟩ _)
    fun res _ => ?_
  simp only [Outcome.pure_eq, Outcome.map_ok, renStates, List.map_cons, renResult_states, List.map_drop, List.map_map]
  rfl

end
end VK
