/-
  Property C01 — every election terminates with exactly m winners and a consistent outcome.
  This file: the STV family (count, partition at every round, termination), the single-round
  "score, then elect the top m" rules and CondoBorda's count.
-/
import VK.Model.Rules
import VK.Lemmas.Sum
import VK.Lemmas.STVEqns
import VK.Lemmas.STVRun
import VK.Lemmas.PSC
import VK.Lemmas.NoFuel
import VK.Lemmas.FpvLink
import VK.Props.C06

namespace VK

/-- reading `Good`: for every recorded round `r` with the earlier rounds `older` the three lists
partition the candidates -/
theorem Good_suffix (cands : List Cand) (l : List RoundState) (hg : Good cands l) (r : RoundState)
    (older : List RoundState) (hs : (r :: older) <:+ l) :
    (r.remaining.flatten ++ electedIn (r :: older) ++ eliminatedIn (r :: older)).Perm cands := by
  induction l with
  | nil => simp at hs
  | cons x xs ih =>
    obtain ⟨hx, hxs⟩ := Good_cons.1 hg
    rcases List.suffix_cons_iff.1 hs with h | h
    · injection h with h1 h2; subst h1 h2; exact hx
    · exact ih hxs h

theorem stvLoop_inv (cfg : STVCfg) (init : Profile) (q : Int) (ω : STVOracle) (hi : init.cands.Nodup)
    (fuel : Nat) (S : CState) (prev : RoundState) (acc tr : List (RoundState × CState))
    (hcs : ∀ c ∈ S.hopeful, c ∈ init.cands) (inv : StvInv init.cands S prev (acc.map (·.1)))
    (h : stvLoop cfg init q ω fuel S prev acc = .ok tr) :
    ∃ Sf prevf, StvInv init.cands Sf prevf (tr.reverse.map (·.1)) ∧ Sf.nElected = cfg.m := by
  obtain ⟨Sf, prevf, accf, rfl, hm, invf⟩ := stvLoop_induct
    (fun S prev acc => StvInv init.cands S prev (acc.map (·.1)))
    (fun _ _ _ _ _ inv _ hs => by exact inv.next hi hs)
    inv h
  exact ⟨Sf, prevf, by rwa [List.reverse_reverse], hm⟩

/-- **C01 for STV / IRV / SequentialRCV (every quota, transfer rule, mode, tiebreak and oracle).**
Whenever a count finishes it has elected exactly `m` candidates, and at every recorded round the
candidates remaining after that round, the candidates elected up to it and the candidates eliminated
up to it list each candidate of the profile exactly once (`Good`, newest round first; since the
elected/eliminated lists only grow by appending, a candidate once elected or eliminated keeps that
status in all later rounds). -/
theorem C01_stv_exactly_m_and_partition (cfg : STVCfg) (p : Profile) (ω : STVOracle) (res : STVResult)
    (hc : p.cands.Nodup) (h : stvRun cfg p ω = .ok res) :
    (electedOf res.states).length = cfg.m ∧ Good p.cands res.states.reverse := by
  obtain ⟨-, -, -, sc0, tr, h0, hl, rfl⟩ := stvRun_eq_ok.1 h
  obtain ⟨Sf, prevf, invf, hm⟩ :=
    stvLoop_inv cfg p _ ω hc _ _ _ _ tr (fun c hc => hc) (StvInv.init hc (scoreFromRankings_keys p _ _ h0)) hl
  refine ⟨?_, ?_⟩
  · show (electedIn (tr.map (·.1))).length = cfg.m
    rw [← hm, invf.count, List.map_reverse, electedIn_reverse_length]
  · show Good p.cands (tr.map (·.1)).reverse
    rw [← List.map_reverse]; exact invf.good

/-- at no round is a candidate in two of the three lists, or twice in one -/
theorem C01_stv_round_lists_disjoint (cfg : STVCfg) (p : Profile) (ω : STVOracle) (res : STVResult)
    (hc : p.cands.Nodup) (h : stvRun cfg p ω = .ok res) (r : RoundState) (older : List RoundState)
    (hs : (r :: older) <:+ res.states.reverse) :
    (r.remaining.flatten ++ electedIn (r :: older) ++ eliminatedIn (r :: older)).Nodup :=
  (Good_suffix p.cands _ (C01_stv_exactly_m_and_partition cfg p ω res hc h).2 r older hs).nodup_iff.2 hc

/-- IRV is STV with one seat: exactly one winner -/
theorem C01_irv_one_winner (p : Profile) (quota : Quota) (tb : Option TB) (ω : STVOracle) (res : STVResult)
    (hc : p.cands.Nodup) (h : irvRun p quota tb ω = .ok res) : (electedOf res.states).length = 1 :=
  (C01_stv_exactly_m_and_partition _ p ω res hc h).1

/-- the first recorded state of an STV count is the initial state: everybody remaining -/
theorem stvRun_head (cfg : STVCfg) (p : Profile) (ω : STVOracle) (res : STVResult)
    (h : stvRun cfg p ω = .ok res) :
    ∃ s0 rest, res.states = s0 :: rest ∧ s0.elected = [] ∧ s0.eliminated = [] := by
  obtain ⟨-, -, -, sc0, tr, -, hl, rfl⟩ := stvRun_eq_ok.1 h
  -- the accumulator is only extended at the front and reversed at the end
  obtain ⟨-, -, accf, rfl, -, hlast⟩ := stvLoop_induct
    (fun _ _ acc => acc.getLast? = some (initialState p.cands (some sc0), stvInitState p))
    (fun _ _ acc _ _ hacc _ _ => by rw [List.getLast?_cons, hacc]; rfl) rfl hl
  obtain ⟨ts, hr⟩ := List.head?_eq_some_iff.1 (List.head?_reverse.trans hlast)
  exact ⟨initialState p.cands (some sc0), ts.map (·.1), by simp [STVResult.states, hr], rfl, rfl⟩

theorem stvLoop_noFuel (cfg : STVCfg) (init : Profile) (q : Int) (ω : STVOracle) (hi : init.cands.Nodup)
    (fuel : Nat) (S : CState) (prev : RoundState) (acc : List (RoundState × CState))
    (hcs : ∀ c ∈ S.hopeful, c ∈ init.cands) (inv : StvInv init.cands S prev (acc.map (·.1)))
    (hl : Linked S prev) (hfuel : S.hopeful.length + 1 ≤ fuel) :
    NoFuel (stvLoop cfg init q ω fuel S prev acc) := by
  induction fuel generalizing S prev acc with
  | zero => omega
  | succ fuel ih =>
    by_cases hm : S.nElected = cfg.m
    · rw [stvLoop_done _ _ _ _ _ _ _ _ hm]; exact noFuel_ok _
    · rw [stvLoop_succ _ _ _ _ _ _ _ _ hm]
      refine noFuel_bind_ok (noFuel_stvStep cfg init q ω _ S prev) fun ⟨S', r⟩ hs => ?_
      have inv' := inv.next hi hs
      have hdec := stvStep_decreases cfg init q ω _ S S' prev r _ hi inv.hopeful_sub inv hl hm hs
      exact ih S' r _ inv'.hopeful_sub inv' (stvStep_linked cfg init q ω _ S S' prev r hs) (by omega)

/-- **C01 — termination.** For every profile of untied ranked ballots over its declared candidates,
every configuration and every oracle, an STV / IRV / SequentialRCV count never runs out of fuel: each
round removes a hopeful candidate, so the `#candidates + 2` rounds that `stvRun` allows are never used
up, and the count ends with a result or an exception. -/
theorem C01_stv_terminates (cfg : STVCfg) (p : Profile) (ω : STVOracle) (quotaOk : Bool)
    (hc : p.cands.Nodup)
    (hne : ∀ b ∈ p.ballots, b.ranking ≠ [])
    (hsingle : ∀ b ∈ p.ballots, ∀ s ∈ b.ranking, s.length = 1)
    (hcast : ∀ b ∈ p.ballots, ∀ c ∈ b.ranking.flatten, c ∈ p.cands) :
    NoFuel (stvRun cfg p ω quotaOk) := by
  -- the three hypotheses on the ballots serve only here: they make the first-place tallies those of
  -- the initial count state, which is what `Linked` says of round 0
  have hfpv := fpv_link p hne hsingle hcast
  refine noFuel_ite (noFuel_raised _) (noFuel_ite (noFuel_raised _) (noFuel_ite (noFuel_raised _) ?_))
  refine noFuel_bind_ok (hfpv ▸ noFuel_ok _) fun sc0 h0 => ?_
  exact noFuel_bind _ _
    (stvLoop_noFuel cfg p _ ω hc _ _ _ _ (fun c hc' => hc') (StvInv.init hc (scoreFromRankings_keys p _ _ h0))
      ⟨Outcome.ok.inj (h0.symm.trans hfpv), rfl⟩ (Nat.le_succ _))
    (fun _ => noFuel_pure _)

/-- `topMRun_ok`, and what it gives when the scoring function scores exactly the profile's candidates:
the round-0 ranking lists them, `m` of them are elected and nobody is lost. -/
theorem topMRun_spec (p : Profile) (m : Nat) (tb : Option TB) (pri : List Cand)
    (score : Profile → Outcome (List (Cand × Rat))) (st : States) (hc : p.cands.Nodup)
    (hkeys : ∀ sc, score p = .ok sc → sc.map (·.1) = p.cands)
    (h : topMRun p m tb pri score = .ok st) :
    ∃ sc0 r sc1, score p = .ok sc0 ∧ (scoreToRanking sc0).flatten.Perm p.cands ∧
      electFromRanking pri (scoreToRanking sc0) m (some p) tb = .ok r ∧
      r.elected.flatten.length = m ∧ (r.elected.flatten ++ r.remaining.flatten).Perm p.cands ∧
      st = [initialState p.cands (some sc0),
            { round := 1, remaining := r.remaining, elected := r.elected, eliminated := [],
              tiebreaks := (match r.tiebreak with | some t => [t] | none => []), scores := sc1 }] := by
  obtain ⟨sc0, r, sc1, h0, h1, -, rfl⟩ := topMRun_ok p m tb pri score st h
  have hperm0 := scoreToRanking_perm_keys (hkeys sc0 h0)
  obtain ⟨hnd, hsub⟩ := ranking_side hc hperm0 (List.Sublist.refl _)
  obtain ⟨hcount, hperm⟩ := electFromRanking_count pri _ m (some p) tb r hnd hsub h1
  exact ⟨sc0, r, sc1, h0, hperm0, h1, hcount, hperm.trans hperm0, rfl⟩

/-- Single-round rules (Plurality, SNTV, Borda, the score rules) record exactly the initial state
and one round. -/
theorem C01_topM_two_states (p : Profile) (m : Nat) (tb : Option TB) (pri : List Cand)
    (score : Profile → Outcome (List (Cand × Rat))) (st : States)
    (h : topMRun p m tb pri score = .ok st) : st.length = 2 := by
  obtain ⟨_, _, _, -, -, -, rfl⟩ := topMRun_ok p m tb pri score st h
  rfl

/-- **C01 for the single-round rules** (Plurality, SNTV, Borda and — through the same body — the
score rules): a finished election elects exactly `m` candidates, nobody is eliminated, and the
elected and remaining groups of the final round list every candidate exactly once. `hkeys` says the
scoring function scores exactly the profile's candidates (true of `scoreFromRankings`:
`scoreFromRankings_keys`). -/
theorem C01_topM_count_partition (p : Profile) (m : Nat) (tb : Option TB) (pri : List Cand)
    (score : Profile → Outcome (List (Cand × Rat))) (st : States) (hc : p.cands.Nodup)
    (hkeys : ∀ sc, score p = .ok sc → sc.map (·.1) = p.cands)
    (h : topMRun p m tb pri score = .ok st) :
    (electedOf st).length = m ∧ eliminatedOf st = [] ∧
    ∃ last, st.getLast? = some last ∧ (last.elected.flatten ++ last.remaining.flatten).Perm p.cands := by
  obtain ⟨sc0, r, sc1, -, -, -, hcount, hperm, rfl⟩ := topMRun_spec p m tb pri score st hc hkeys h
  exact ⟨by simpa [electedOf, initialState] using hcount, by simp [eliminatedOf, initialState], _, rfl, hperm⟩

/-- **No tiebreak, no result across a tie.** When no tiebreak was requested, a finished election
means the seat boundary falls between two score groups: the first `m` seats are exactly a union of
whole groups of equal score. (So candidates tied across the last seat make the rule raise instead —
`electLoop` returns `ValueError` there.) -/
theorem C01_topM_no_tiebreak_no_boundary_tie (p : Profile) (m : Nat) (pri : List Cand)
    (score : Profile → Outcome (List (Cand × Rat))) (st : States) (hc : p.cands.Nodup)
    (hkeys : ∀ sc, score p = .ok sc → sc.map (·.1) = p.cands)
    (h : topMRun p m none pri score = .ok st) :
    ∃ sc0 pre post, score p = .ok sc0 ∧ scoreToRanking sc0 = pre ++ post ∧ pre.flatten.length = m := by
  obtain ⟨sc0, r, sc1, h0, hperm0, h1, -⟩ := topMRun_spec p m none pri score st hc hkeys h
  obtain ⟨hnd, hsub⟩ := ranking_side hc hperm0 (List.Sublist.refl _)
  obtain ⟨pre, post, hrest, hcase⟩ :=
    electLoop_spec pri (some p) none m [] _ r hnd hsub (electFromRanking_eq_ok.1 h1).2.2
  rcases hcase with ⟨-, h2, -⟩ | ⟨_, _, _, t, -, -, ht, -⟩
  · exact ⟨sc0, pre, post, h0, hrest, h2⟩
  · -- a group straddling the boundary is only broken by a tiebreak `some t`
    cases ht

theorem bordaRun_ok {p : Profile} {m : Nat} {v : Option (List Rat)} {tb : Option TB} {pri : List Cand}
    {st : States} (h : bordaRun p m v tb pri = .ok st) :
    ∃ vec, topMRun p m tb pri (fun q => scoreFromRankings q vec) = .ok st :=
  ⟨_, (Outcome.ite_raised_eq_ok.1 (Outcome.ite_raised_eq_ok.1 h).2).2⟩

/-- Plurality / SNTV instance -/
theorem C01_plurality (p : Profile) (m : Nat) (tb : Option TB) (pri : List Cand) (st : States)
    (hc : p.cands.Nodup) (h : pluralityRun p m tb pri = .ok st) :
    (electedOf st).length = m ∧ eliminatedOf st = [] ∧
    ∃ last, st.getLast? = some last ∧ (last.elected.flatten ++ last.remaining.flatten).Perm p.cands :=
  C01_topM_count_partition p m tb pri firstPlaceVotes st hc (scoreFromRankings_keys p _) (pluralityRun_ok h)

/-- Borda instance (any valid score vector) -/
theorem C01_borda (p : Profile) (m : Nat) (v : Option (List Rat)) (tb : Option TB) (pri : List Cand) (st : States)
    (hc : p.cands.Nodup) (h : bordaRun p m v tb pri = .ok st) :
    (electedOf st).length = m ∧ eliminatedOf st = [] ∧
    ∃ last, st.getLast? = some last ∧ (last.elected.flatten ++ last.remaining.flatten).Perm p.cands :=
  have ⟨vec, hv⟩ := bordaRun_ok h
  C01_topM_count_partition p m tb pri _ st hc (scoreFromRankings_keys p vec) hv

/-- what a successful CondoBorda run looks like: `topMRun`'s record, the seats filled from the
dominating tiers -/
theorem condoBordaRun_ok {p : Profile} {m : Nat} {pri : List Cand} {st : States}
    (h : condoBordaRun p m pri = .ok st) :
    ∃ sc0 r sc1, bordaScores p = .ok sc0 ∧
      electFromRanking pri (dominatingTiers p) m (some p) (some .borda) = .ok r ∧
      st = [initialState p.cands (some sc0),
            { round := 1, remaining := r.remaining, elected := r.elected, eliminated := [],
              tiebreaks := (match r.tiebreak with | some t => [t] | none => []), scores := sc1 }] := by
  obtain ⟨sc0, h0, h⟩ := Outcome.bind_eq_ok.1 (Outcome.ite_raised_eq_ok.1 h).2
  obtain ⟨r, h1, h⟩ := Outcome.bind_eq_ok.1 h
  obtain ⟨sc1, -, h⟩ := Outcome.bind_eq_ok.1 h
  exact ⟨sc0, r, sc1, h0, h1, (Outcome.ok.inj h).symm⟩

/-- **CondoBorda elects exactly `m` candidates** (whole tiers, then Borda inside the straddling tier) -/
theorem C01_condoborda_exactly_m (p : Profile) (m : Nat) (pri : List Cand) (st : States)
    (hc : p.cands.Nodup) (h : condoBordaRun p m pri = .ok st) : (electedOf st).length = m := by
  obtain ⟨sc0, r, sc1, -, h1, rfl⟩ := condoBordaRun_ok h
  obtain ⟨hnd, hsub⟩ := ranking_side hc (C06_tiers_partition p) (graphCands_sublist p)
  simpa [electedOf, initialState] using (electFromRanking_count pri _ m (some p) _ r hnd hsub h1).1

/-! non-vacuity: A>B x3, B x2 over A, B — an STV count and a Plurality election that finish -/
def exBallots : List Ballot := [Ballot.mk [[0], [1]] 3 [], Ballot.mk [[1]] 2 []]
def exProfile : Profile := Profile.mk exBallots [0, 1]
example : (stvRun { m := 1 } exProfile {}).isOk = true := by decide +kernel
example : (pluralityRun exProfile 1 none []).isOk = true := by decide +kernel

end VK
