/-
  C01, partition at every recorded round for the single-round rules and the composites. TopTwo and
  Alaska are the same construction, a second rule run on the finalists of a plurality stage
  (`finalistStage_then`), which also gives their winner counts.
-/
import VK.Props.C01
import VK.Props.C05
import VK.Props.C13

namespace VK

theorem topMRun_good (p : Profile) (m : Nat) (tb : Option TB) (pri : List Cand)
    (score : Profile → Outcome (List (Cand × Rat))) (st : States) (hc : p.cands.Nodup)
    (hkeys : ∀ sc, score p = .ok sc → sc.map (·.1) = p.cands)
    (h : topMRun p m tb pri score = .ok st) : Good p.cands st.reverse := by
  obtain ⟨sc0, r, sc1, -, hperm0, -, -, hperm, rfl⟩ := topMRun_spec p m tb pri score st hc hkeys h
  exact Good_second rfl rfl hperm0 (by simpa using List.perm_append_comm.trans hperm)

/-- **Plurality / SNTV: every recorded round partitions the candidates.** -/
theorem C01_plurality_partition (p : Profile) (m : Nat) (tb : Option TB) (pri : List Cand) (st : States)
    (hc : p.cands.Nodup) (h : pluralityRun p m tb pri = .ok st) : Good p.cands st.reverse :=
  topMRun_good p m tb pri firstPlaceVotes st hc (scoreFromRankings_keys p _) (pluralityRun_ok h)

/-- **Borda (any valid score vector): every recorded round partitions the candidates.** -/
theorem C01_borda_partition (p : Profile) (m : Nat) (v : Option (List Rat)) (tb : Option TB) (pri : List Cand)
    (st : States) (hc : p.cands.Nodup) (h : bordaRun p m v tb pri = .ok st) : Good p.cands st.reverse :=
  have ⟨vec, hv⟩ := bordaRun_ok h
  topMRun_good p m tb pri _ st hc (scoreFromRankings_keys p vec) hv

/-- **Rating / Limited / Cumulative / Approval / BlocPlurality: every recorded round partitions the
candidates** (all of them run `generalRatingRun`, `C05_subclass_params`). -/
theorem C01_rating_partition (p : Profile) (m : Int) (L : Rat) (k : Option Rat) (tb : Option TB)
    (pri : List Cand) (st : States) (hc : p.cands.Nodup)
    (h : generalRatingRun p m L k tb pri = .ok st) : Good p.cands st.reverse :=
  topMRun_good p m.toNat tb pri scoreFromBallotScores st hc (scoreFromBallotScores_keys p)
    (generalRatingRun_ok h)

/-- **CondoBorda: every recorded round partitions the candidates** (profiles with at least one ballot;
without ballots the pairwise graph is empty and the rule raises, finding F-C01-g). -/
theorem C01_condoborda_partition (p : Profile) (m : Nat) (pri : List Cand) (st : States)
    (hc : p.cands.Nodup) (hb : p.ballots ≠ []) (h : condoBordaRun p m pri = .ok st) :
    Good p.cands st.reverse := by
  obtain ⟨sc0, r, sc1, h0, h1, rfl⟩ := condoBordaRun_ok h
  have hperm := C06_tiers_partition p
  obtain ⟨hnd, hsub⟩ := ranking_side hc hperm (graphCands_sublist p)
  obtain ⟨-, hp⟩ := electFromRanking_count pri _ m (some p) _ r hnd hsub h1
  have hgc : graphCands p = p.cands := by simp [graphCands, hb]
  rw [hgc] at hperm
  exact Good_second rfl rfl (scoreToRanking_perm_keys (scoreFromRankings_keys p _ sc0 h0))
    (by simpa using List.perm_append_comm.trans (hp.trans hperm))

/-- what the finalist stage records: round 0 lists everybody as remaining; round 1 lists the finalists
as remaining and everybody else as eliminated, and the profile handed on has exactly the finalists -/
theorem finalistStage_spec (p : Profile) (k : Nat) (tb : Option TB) (pri : List Cand)
    (st0 st1 : RoundState) (p1 : Profile) (hc : p.cands.Nodup)
    (h : finalistStage p k tb pri = .ok (st0, st1, p1)) :
    st0.remaining.flatten.Perm p.cands ∧ st0.elected = [] ∧ st0.eliminated = [] ∧ st1.elected = [] ∧
    (st1.remaining.flatten ++ st1.eliminated.flatten).Perm p.cands ∧
    p1.cands.Perm st1.remaining.flatten ∧ p1.cands.Nodup := by
  obtain ⟨sc0, _, _, sc1, h0, h1, -, hx⟩ := finalistStage_ok h
  cases hx
  obtain ⟨_, r, _, -, -, -, -, hpl, hrs⟩ :=
    topMRun_spec p k tb pri _ _ hc (scoreFromRankings_keys p _) (pluralityRun_ok h1)
  cases hrs
  -- the profile handed on keeps the candidates outside `r.remaining`, i.e. the plurality winners
  have hnd : (r.elected.flatten ++ r.remaining.flatten).Nodup := hpl.nodup_iff.2 hc
  have hsplit := filter_not_contains_perm p.cands r.remaining.flatten hc (List.nodup_append.1 hnd).2.1
    (fun c hcm => hpl.subset (List.mem_append_right _ hcm))
  exact ⟨scoreToRanking_perm_keys (scoreFromRankings_keys p _ sc0 h0), rfl, rfl, rfl, hpl,
    (List.perm_append_right_iff _).1 (hsplit.trans hpl.symm), hc.filter _⟩

/-- rounds of a second stage over the finalists `c1`, recorded on top of earlier rounds `base` that
eliminated everybody else and elected nobody, partition the full candidate list -/
theorem Good_lift (cands c1 : List Cand) (l base : List RoundState) (s0 : RoundState)
    (f : RoundState → RoundState)
    (hf1 : ∀ s, (f s).remaining = s.remaining) (hf2 : ∀ s, (f s).elected = s.elected)
    (hf3 : ∀ s, (f s).eliminated = s.eliminated)
    (hs0 : s0.elected = [] ∧ s0.eliminated = [])
    (hg : Good c1 (l ++ [s0])) (hbase : Good cands base) (hbe : electedIn base = [])
    (hsplit : (c1 ++ eliminatedIn base).Perm cands) : Good cands (l.map f ++ base) := by
  induction l with
  | nil => exact hbase
  | cons r l' ih =>
    rw [List.cons_append, Good_cons] at hg
    obtain ⟨hp, hg'⟩ := hg
    rw [List.map_cons, List.cons_append, Good_cons]
    refine ⟨?_, ih hg'⟩
    -- both sides list the same groups once `electedIn` / `eliminatedIn` are distributed over `::`, `++`, `map f`
    have hp' := (hp.append_right (eliminatedIn base)).trans hsplit
    simp only [electedIn_cons, eliminatedIn_cons, electedIn_append, eliminatedIn_append, electedIn_map _ f hf2,
      eliminatedIn_map _ f hf3, hf1, hf2, hf3, hbe, hs0.1, hs0.2, List.flatten_nil, List.nil_append,
      List.append_nil, List.append_assoc] at hp' ⊢
    exact hp'

/-- A second stage run on the finalists whose record `second` starts with a round electing and
eliminating nobody, recorded after the two rounds of the finalist stage with that first round
dropped (`f` renumbers): the finalists are duplicate-free, the winners are those of the second
stage, and every recorded round partitions the candidates if every round of the second stage
partitions the finalists. -/
theorem finalistStage_then {p : Profile} {k : Nat} {tb : Option TB} {pri : List Cand}
    {st0 st1 : RoundState} {p1 : Profile} (hc : p.cands.Nodup)
    (h : finalistStage p k tb pri = .ok (st0, st1, p1)) {second : States} (f : RoundState → RoundState)
    (hf1 : ∀ s, (f s).remaining = s.remaining) (hf2 : ∀ s, (f s).elected = s.elected)
    (hf3 : ∀ s, (f s).eliminated = s.eliminated)
    (hhead : ∃ s0 rest, second = s0 :: rest ∧ s0.elected = [] ∧ s0.eliminated = []) :
    p1.cands.Nodup ∧ electedOf (st0 :: st1 :: (second.drop 1).map f) = electedOf second ∧
    (Good p1.cands second.reverse → Good p.cands (st0 :: st1 :: (second.drop 1).map f).reverse) := by
  obtain ⟨g0, e0, x0, e1, g1, hp1, hp1n⟩ := finalistStage_spec p k tb pri st0 st1 p1 hc h
  obtain ⟨s0, rest, rfl, hs0e, hs0x⟩ := hhead
  refine ⟨hp1n, ?_, fun hg => ?_⟩
  · simp only [electedOf_eq_electedIn, List.drop_one, List.tail_cons, electedIn_cons, e0, e1, hs0e,
      electedIn_map _ f hf2, List.flatten_nil, List.nil_append]
  · have := Good_lift p.cands p1.cands rest.reverse [st1, st0] s0 f hf1 hf2 hf3 ⟨hs0e, hs0x⟩
      (by simpa using hg) (Good_second e0 x0 g0 (by simpa [e1] using g1)) (by simp [electedIn, e0, e1])
      (by simpa [eliminatedIn, x0] using (hp1.append_right _).trans g1)
    simpa using this

theorem topTwoRun_count_good {p : Profile} {tb : Option TB} {pri : Nat → List Cand} {st : States}
    (hc : p.cands.Nodup) (h : topTwoRun p tb pri = .ok st) :
    (electedOf st).length = 1 ∧ Good p.cands st.reverse := by
  obtain ⟨⟨st0, st1, p1⟩, h1, h⟩ := Outcome.bind_eq_ok.1 (Outcome.ite_raised_eq_ok.1 h).2
  obtain ⟨pl, h2, h⟩ := Outcome.bind_eq_ok.1 h
  obtain ⟨_, r, _, -, -, -, hpl⟩ := topMRun_ok _ _ _ _ _ pl (pluralityRun_ok h2)
  obtain ⟨hp1n, hel, hlift⟩ := finalistStage_then hc h1 (second := pl) (fun s => { s with round := 2 })
    (fun _ => rfl) (fun _ => rfl) (fun _ => rfl) ⟨_, _, hpl, rfl, rfl⟩
  -- the record is `st0 :: st1 :: (pl.drop 1).map _`
  subst hpl
  cases h
  exact ⟨(congrArg List.length hel).trans (C01_plurality p1 1 tb (pri 2) _ hp1n h2).1,
    hlift (C01_plurality_partition p1 1 tb (pri 2) _ hp1n h2)⟩

/-- **TopTwo elects exactly one candidate.** -/
theorem C01_toptwo_one_winner (p : Profile) (tb : Option TB) (pri : Nat → List Cand) (st : States)
    (hc : p.cands.Nodup) (h : topTwoRun p tb pri = .ok st) : (electedOf st).length = 1 :=
  (topTwoRun_count_good hc h).1

/-- **TopTwo: every one of the three recorded rounds partitions the candidates.** -/
theorem C01_toptwo_partition (p : Profile) (tb : Option TB) (pri : Nat → List Cand) (st : States)
    (hc : p.cands.Nodup) (h : topTwoRun p tb pri = .ok st) : Good p.cands st.reverse :=
  (topTwoRun_count_good hc h).2

theorem alaskaRun_count_good {p : Profile} {m1 m2 : Int} {cfg : STVCfg} {ω : STVOracle} {st : States}
    (hc : p.cands.Nodup) (h : alaskaRun p m1 m2 cfg ω = .ok st) :
    (electedOf st).length = m2.toNat ∧ Good p.cands st.reverse := by
  obtain ⟨⟨st0, st1, p1⟩, h1, h⟩ :=
    Outcome.bind_eq_ok.1 (Outcome.ite_raised_eq_ok.1 (Outcome.ite_raised_eq_ok.1 h).2).2
  obtain ⟨res, h2, h⟩ := Outcome.bind_eq_ok.1 h
  cases h
  obtain ⟨hp1n, hcount, hgood⟩ := finalistStage_then hc h1 (fun s => { s with round := s.round + 1 })
    (fun _ => rfl) (fun _ => rfl) (fun _ => rfl) (stvRun_head _ p1 _ res h2)
  obtain ⟨hm, hg⟩ := C01_stv_exactly_m_and_partition _ p1 _ res hp1n h2
  exact ⟨(congrArg List.length hcount).trans hm, hgood hg⟩

/-- **Alaska elects exactly `m_2` candidates.** -/
theorem C01_alaska_exactly_m2 (p : Profile) (m1 m2 : Int) (cfg : STVCfg) (ω : STVOracle) (st : States)
    (hc : p.cands.Nodup) (h : alaskaRun p m1 m2 cfg ω = .ok st) : (electedOf st).length = m2.toNat :=
  (alaskaRun_count_good hc h).1

/-- **Alaska: every recorded round partitions the candidates** — the plurality stage (everybody, then the
finalists against the eliminated rest) and every renumbered round of the STV stage. -/
theorem C01_alaska_partition (p : Profile) (m1 m2 : Int) (cfg : STVCfg) (ω : STVOracle) (st : States)
    (hc : p.cands.Nodup) (h : alaskaRun p m1 m2 cfg ω = .ok st) : Good p.cands st.reverse :=
  (alaskaRun_count_good hc h).2

/-- non-vacuity on `exProfile`: TopTwo, Alaska(2,1) and CondoBorda finish -/
example : (topTwoRun exProfile none (fun _ => [])).isOk = true := by decide +kernel
example : (alaskaRun exProfile 2 1 { m := 1 } {}).isOk = true := by decide +kernel
example : (condoBordaRun exProfile 1 []).isOk = true := by decide +kernel

end VK
