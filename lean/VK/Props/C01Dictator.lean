/-
  C01 for the dictator rules: whenever RandomDictator or BoostedRandomDictator finishes it has elected
  exactly `m` candidates, and at EVERY recorded round the candidates remaining after that round and the
  candidates elected up to it list each candidate exactly once (nobody is ever eliminated), for every
  oracle value. The two rules run the same loop and differ in how a round's winner is drawn.
-/
import VK.Props.C01
import VK.Props.C12
import VK.Lemmas.Condense

namespace VK

/-- `rdLoop` and `brdLoop` with the draw as a parameter: `pick` sees the current profile, the scores
recorded in the previous round and the round number -/
def pickLoop (m : Nat)
    (pick : Profile → List (Cand × Rat) → Nat → Outcome (Cand × List (List Cand × Ranking))) :
    Nat → Profile → List (Cand × Rat) → Nat → Nat → List RoundState → Outcome States
  | 0, _, _, n, _, acc => if n ≥ m then .ok acc.reverse else .outOfFuel
  | fuel + 1, p, scores, n, rnd, acc =>
    if n ≥ m then .ok acc.reverse
    else do
      let (w, tbs) ← pick p scores rnd
      let p' := removeCand [w] p
      let sc ← firstPlaceVotes p'
      pickLoop m pick fuel p' sc (n + 1) (rnd + 1)
        ({ round := rnd, remaining := scoreToRanking sc, elected := [[w]], eliminated := [],
           tiebreaks := tbs, scores := sc } :: acc)

theorem rdLoop_eq_pickLoop (m : Nat) (ω : RDOracle) :
    ∀ (fuel : Nat) (p : Profile) (sc : List (Cand × Rat)) (n rnd : Nat) (acc : List RoundState),
      rdLoop m ω fuel p n rnd acc =
        pickLoop m (fun p _ rnd => dictatorPick p (ω.pick rnd) (ω.pri rnd)) fuel p sc n rnd acc
  | 0, _, _, _, _, _ => rfl
  | fuel + 1, _, _, n, _, acc =>
    congrArg (fun x => if n ≥ m then Outcome.ok acc.reverse else x)
      (bind_congr fun _ => bind_congr fun sc' => rdLoop_eq_pickLoop m ω fuel _ sc' _ _ _)

theorem brdLoop_eq_pickLoop (m : Nat) (ω : RDOracle) :
    ∀ (fuel : Nat) (p : Profile) (sc : List (Cand × Rat)) (n rnd : Nat) (acc : List RoundState),
      brdLoop m ω fuel p sc n rnd acc =
        pickLoop m (fun p sc rnd => boostedPick p sc ω rnd) fuel p sc n rnd acc
  | 0, _, _, _, _, _ => rfl
  | fuel + 1, _, _, n, _, acc =>
    congrArg (fun x => if n ≥ m then Outcome.ok acc.reverse else x)
      (bind_congr fun _ => bind_congr fun sc' => brdLoop_eq_pickLoop m ω fuel _ sc' _ _ _)

theorem randomDictatorRun_ok {p : Profile} {m : Int} {ω : RDOracle} {st : States}
    (h : randomDictatorRun p m ω = .ok st) :
    ∃ sc0, firstPlaceVotes p = .ok sc0 ∧
      pickLoop m.toNat (fun p _ rnd => dictatorPick p (ω.pick rnd) (ω.pri rnd)) (m.toNat + 1) p sc0 0 1
        [initialState p.cands (some sc0)] = .ok st := by
  obtain ⟨sc0, h0, h⟩ :=
    Outcome.bind_eq_ok.1 (Outcome.ite_raised_eq_ok.1 (Outcome.ite_raised_eq_ok.1 h).2).2
  exact ⟨sc0, h0, rdLoop_eq_pickLoop m.toNat ω _ p sc0 _ _ _ ▸ h⟩

theorem boostedRun_ok {p : Profile} {m : Int} {ω : RDOracle} {st : States}
    (h : boostedRun p m ω = .ok st) :
    ∃ sc0, firstPlaceVotes p = .ok sc0 ∧
      pickLoop m.toNat (fun p sc rnd => boostedPick p sc ω rnd) (m.toNat + 1) p sc0 0 1
        [initialState p.cands (some sc0)] = .ok st := by
  obtain ⟨sc0, h0, h⟩ :=
    Outcome.bind_eq_ok.1 (Outcome.ite_raised_eq_ok.1 (Outcome.ite_raised_eq_ok.1 h).2).2
  exact ⟨sc0, h0, brdLoop_eq_pickLoop m.toNat ω _ p sc0 _ _ _ ▸ h⟩

/-- A property of (profile, last scores, seats filled, record) that every successful round keeps
holds when the loop finishes, and then at least `m` seats are filled. -/
theorem pickLoop_induct {m : Nat}
    {pick : Profile → List (Cand × Rat) → Nat → Outcome (Cand × List (List Cand × Ranking))}
    (I : Profile → List (Cand × Rat) → Nat → List RoundState → Prop)
    (step : ∀ p sc n rnd acc w tbs sc', I p sc n acc → n < m → pick p sc rnd = .ok (w, tbs) →
      firstPlaceVotes (removeCand [w] p) = .ok sc' →
      I (removeCand [w] p) sc' (n + 1)
        ({ round := rnd, remaining := scoreToRanking sc', elected := [[w]], eliminated := [],
           tiebreaks := tbs, scores := sc' } :: acc))
    {fuel : Nat} {p : Profile} {sc : List (Cand × Rat)} {n rnd : Nat} {acc : List RoundState} {st : States}
    (h0 : I p sc n acc) (h : pickLoop m pick fuel p sc n rnd acc = .ok st) :
    ∃ p' sc' n' acc', st = acc'.reverse ∧ m ≤ n' ∧ I p' sc' n' acc' := by
  induction fuel generalizing p sc n rnd acc with
  | zero =>
    unfold pickLoop at h
    split at h
    · cases h; exact ⟨p, sc, n, acc, rfl, ‹_›, h0⟩
    · cases h
  | succ fuel ih =>
    unfold pickLoop at h
    split at h
    · cases h; exact ⟨p, sc, n, acc, rfl, ‹_›, h0⟩
    · obtain ⟨⟨w, tbs⟩, hd, h⟩ := Outcome.bind_eq_ok.1 h
      obtain ⟨sc', hs, h⟩ := Outcome.bind_eq_ok.1 h
      exact ih (step _ _ _ _ _ _ _ _ h0 (by omega) hd hs) h

/-- one winner per round, and the loop stops at `m` -/
theorem pickLoop_count {m : Nat}
    {pick : Profile → List (Cand × Rat) → Nat → Outcome (Cand × List (List Cand × Ranking))}
    {fuel : Nat} {p : Profile} {sc : List (Cand × Rat)} {n rnd : Nat} {acc : List RoundState} {st : States}
    (hn : n ≤ m) (hacc : (electedIn acc).length = n)
    (h : pickLoop m pick fuel p sc n rnd acc = .ok st) : (electedOf st).length = m := by
  obtain ⟨-, -, n', acc', rfl, hm, hacc', hn'⟩ := pickLoop_induct
    (fun _ _ n acc => (electedIn acc).length = n ∧ n ≤ m)
    (fun _ _ n _ acc _ _ _ ⟨hacc, _⟩ hlt _ _ =>
      ⟨by rw [electedIn_cons, List.length_append, hacc]; exact Nat.add_comm _ _, hlt⟩) ⟨hacc, hn⟩ h
  exact (electedIn_reverse_length acc').trans (hacc'.trans (Nat.le_antisymm hn' hm))

/-- **RandomDictator elects exactly `m` candidates**, for every oracle -/
theorem C01_random_dictator_exactly_m (p : Profile) (m : Int) (ω : RDOracle) (st : States)
    (h : randomDictatorRun p m ω = .ok st) : (electedOf st).length = m.toNat :=
  have ⟨_, _, hl⟩ := randomDictatorRun_ok h
  pickLoop_count (Nat.zero_le _) rfl hl

/-- **BoostedRandomDictator elects exactly `m` candidates**, for every oracle -/
theorem C01_boosted_exactly_m (p : Profile) (m : Int) (ω : RDOracle) (st : States)
    (h : boostedRun p m ω = .ok st) : (electedOf st).length = m.toNat :=
  have ⟨_, _, hl⟩ := boostedRun_ok h
  pickLoop_count (Nat.zero_le _) rfl hl

/-- ballots that only mention declared candidates, each position without repeats -/
def CastOK (p : Profile) : Prop :=
  ∀ b ∈ p.ballots, (∀ c ∈ b.ranking.flatten, c ∈ p.cands) ∧ ∀ s ∈ b.ranking, s.Nodup

theorem removeCand_castOK (w : Cand) (p : Profile) (h : CastOK p) : CastOK (removeCand [w] p) := by
  intro b hb
  obtain ⟨b0, hb0, hr, -⟩ := mem_condense_ranking _ b hb
  obtain ⟨b00, hb00, rfl⟩ := List.mem_map.1 (List.mem_filter.1 hb0).1
  obtain ⟨hc, hn⟩ := h b00 hb00
  rw [← hr, scrubBallot_ranking]
  refine ⟨fun c hcm => ?_, fun s hs => ?_⟩
  · rw [C12_order] at hcm
    exact List.mem_filter.2 ⟨hc c (List.mem_filter.1 hcm).1, (List.mem_filter.1 hcm).2⟩
  · obtain ⟨-, s0, hs0, rfl⟩ := scrubRanking_positions [w] b00.ranking s hs
    exact (hn s0 hs0).filter _

theorem dictatorPick_mem (p : Profile) (pick : Ranking) (pri : List Cand) (w : Cand) (t : List (List Cand × Ranking))
    (hp : CastOK p) (h : dictatorPick p pick pri = .ok (w, t)) : w ∈ p.cands := by
  unfold dictatorPick at h
  obtain ⟨-, h⟩ := Outcome.ite_raised_eq_ok.1 h
  split at h; · cases h
  rename_i hany
  rw [Bool.not_eq_true, Bool.not_eq_false'] at hany
  obtain ⟨b, hb, hbp⟩ := List.any_eq_true.1 hany
  rw [Bool.and_eq_true, decide_eq_true_eq] at hbp
  obtain ⟨hc, hn⟩ := hp b hb
  cases pick with
  | nil => cases h
  | cons first rest =>
    -- the drawn ranking is that of a ballot `b` of the profile, and the winner stands in its first position
    have hfirst : first ∈ b.ranking := by rw [hbp.1]; exact List.mem_cons_self
    suffices w ∈ first from hc w (List.mem_flatten.2 ⟨first, hfirst, this⟩)
    simp only at h
    split at h
    · obtain ⟨tr, ht, h⟩ := Outcome.bind_eq_ok.1 h
      have hspec := tiebreakSet_spec pri first none .random tr (hn first hfirst)
        (by intro q hq; cases hq) ht
      split at h
      · cases h; exact hspec.1.subset (List.mem_flatten.2 ⟨_, List.mem_cons_self, List.mem_singleton_self _⟩)
      · cases h
    · split at h
      · cases h; exact List.mem_singleton_self _
      · cases h

theorem boostedPick_mem (p : Profile) (scores : List (Cand × Rat)) (ω : RDOracle) (rnd : Nat) (w : Cand)
    (t : List (List Cand × Ranking)) (hp : CastOK p) (hk : scores.map (·.1) = p.cands)
    (h : boostedPick p scores ω rnd = .ok (w, t)) : w ∈ p.cands := by
  unfold boostedPick at h
  split at h
  · rename_i c hc
    cases h; rw [hc]; exact List.mem_singleton_self _
  · split at h
    · obtain ⟨-, h⟩ := Outcome.ite_raised_eq_ok.1 h
      split at h
      · rename_i hany
        cases h
        obtain ⟨cs, hcs, hcond⟩ := List.any_eq_true.1 hany
        rw [Bool.and_eq_true, decide_eq_true_eq] at hcond
        rw [← hk, ← hcond.1]
        exact List.mem_map_of_mem hcs
      · cases h
    · exact dictatorPick_mem p _ _ w t hp h

structure RdInv (cands : List Cand) (p : Profile) (acc : List RoundState) : Prop where
  nodup : p.cands.Nodup
  cast : CastOK p
  part : (p.cands ++ electedIn acc).Perm cands
  noelim : eliminatedIn acc = []
  good : Good cands acc

theorem RdInv.init {p : Profile} {sc0 : List (Cand × Rat)} (hn : p.cands.Nodup) (hc : CastOK p)
    (h0 : firstPlaceVotes p = .ok sc0) : RdInv p.cands p [initialState p.cands (some sc0)] :=
  ⟨hn, hc, by simp [electedIn, initialState], rfl,
    Good_initial rfl rfl (scoreToRanking_perm_keys (scoreFromRankings_keys _ _ _ h0))⟩

/-- a round that elects `w` alone and records the rescored rest as remaining -/
theorem RdInv.step {cands : List Cand} {p : Profile} {acc : List RoundState} (inv : RdInv cands p acc)
    {w : Cand} (hw : w ∈ p.cands) {sc : List (Cand × Rat)} (hs : firstPlaceVotes (removeCand [w] p) = .ok sc)
    {r : RoundState} (hrr : r.remaining = scoreToRanking sc) (hre : r.elected = [[w]])
    (hrx : r.eliminated = []) : RdInv cands (removeCand [w] p) (r :: acc) := by
  have hrem : r.remaining.flatten.Perm (removeCand [w] p).cands :=
    hrr ▸ scoreToRanking_perm_keys (scoreFromRankings_keys _ _ _ hs)
  have hsplit : ((removeCand [w] p).cands ++ [w]).Perm p.cands :=
    filter_not_contains_perm p.cands [w] inv.nodup (List.nodup_singleton w) (by simpa using hw)
  have hpart : ((removeCand [w] p).cands ++ electedIn (r :: acc)).Perm cands := by
    rw [electedIn_cons, hre, ← List.append_assoc]
    exact (hsplit.append_right _).trans inv.part
  have hnoelim : eliminatedIn (r :: acc) = [] := by rw [eliminatedIn_cons, hrx, inv.noelim]; rfl
  refine ⟨inv.nodup.filter _, removeCand_castOK w p inv.cast, hpart, hnoelim, ?_, inv.good⟩
  rw [hnoelim, List.append_nil]
  exact (hrem.append_right _).trans hpart

/-- every round partitions the candidates, provided the draw names a candidate of the current profile -/
theorem pickLoop_good {cands : List Cand} {m : Nat}
    {pick : Profile → List (Cand × Rat) → Nat → Outcome (Cand × List (List Cand × Ranking))}
    (hpick : ∀ p sc rnd w t, CastOK p → sc.map (·.1) = p.cands → pick p sc rnd = .ok (w, t) → w ∈ p.cands)
    {fuel : Nat} {p : Profile} {sc : List (Cand × Rat)} {n rnd : Nat} {acc : List RoundState} {st : States}
    (inv : RdInv cands p acc) (hk : sc.map (·.1) = p.cands)
    (h : pickLoop m pick fuel p sc n rnd acc = .ok st) : Good cands st.reverse ∧ eliminatedIn st = [] := by
  obtain ⟨p', -, -, acc', rfl, -, inv', -⟩ := pickLoop_induct
    (fun p sc _ acc => RdInv cands p acc ∧ sc.map (·.1) = p.cands)
    (fun p sc _ rnd _ w t _ ⟨inv, hk⟩ _ hd hs =>
      ⟨inv.step (hpick p sc rnd w t inv.cast hk hd) hs rfl rfl rfl, scoreFromRankings_keys _ _ _ hs⟩)
    ⟨inv, hk⟩ h
  exact ⟨by rw [List.reverse_reverse]; exact inv'.good,
    List.Perm.eq_nil (inv'.noelim ▸ eliminatedIn_reverse_perm acc')⟩

/-- **RandomDictator, every round.** For a profile over duplicate-free declared candidates whose
ballots mention only those: whenever the election finishes (any oracle), at every recorded round the
remaining candidates together with the candidates elected up to that round are a rearrangement of the
candidate list, and nobody is ever eliminated. -/
theorem C01_random_dictator_partition (p : Profile) (m : Int) (ω : RDOracle) (st : States)
    (hn : p.cands.Nodup) (hc : CastOK p) (h : randomDictatorRun p m ω = .ok st) :
    Good p.cands st.reverse ∧ eliminatedIn st = [] :=
  have ⟨_, h0, hl⟩ := randomDictatorRun_ok h
  pickLoop_good (fun p _ _ w t hp _ => dictatorPick_mem p _ _ w t hp) (RdInv.init hn hc h0)
    (scoreFromRankings_keys _ _ _ h0) hl

/-- **BoostedRandomDictator, every round**: the same round-by-round partition, whichever branch each
round takes and whatever the oracle draws. -/
theorem C01_boosted_partition (p : Profile) (m : Int) (ω : RDOracle) (st : States)
    (hn : p.cands.Nodup) (hc : CastOK p) (h : boostedRun p m ω = .ok st) :
    Good p.cands st.reverse ∧ eliminatedIn st = [] :=
  have ⟨_, h0, hl⟩ := boostedRun_ok h
  pickLoop_good (fun p sc rnd w t => boostedPick_mem p sc ω rnd w t) (RdInv.init hn hc h0)
    (scoreFromRankings_keys _ _ _ h0) hl

end VK
