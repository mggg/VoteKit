/-
  Property C16 — generated ballots follow the documented model distributions.

  Reading (DESIGN.md §4 C16): the correspondence check shows that the implementation makes exactly the
  primitive calls of `VK.Model.Gen` (population aligned with its probability vector, size, flags)
  and assembles ballots from the results as the model does. The theorems below are about that model:
  the deterministic maps from primitive results to ballots (`whichBin`, `typeStep`, `mcmcStep`,
  `slateMcmcStep`, `sortByDist`, `alternate`) and, in `Dist`, the laws that follow from the *assumed*
  laws of the primitives (successive sampling, i.i.d. categorical draws, uniform flips).
-/
import VK.Model.Gen
import VK.Lemmas.DistLemmas
import VK.Props.C14
import VK.Props.C15
import Mathlib.Algebra.Order.Field.Basic

namespace VK
open Gen Dist

theorem whichBin_cons_cons (lo hi : Rat) (rest : List Rat) (u : Rat) :
    whichBin (lo :: hi :: rest) u =
      if lo < u ∧ u ≤ hi then some 0 else (whichBin (hi :: rest) u).map (· + 1) := by
  rw [whichBin]
  simp only [Bool.and_eq_true, decide_eq_true_eq]

/-- **`which_bin` is the interval test.** It returns `i` exactly when the flip lies in
`(bins[i], bins[i+1]]` and in no earlier such interval. -/
theorem C16_whichBin_iff (bins : List Rat) (u : Rat) (i : Nat) :
    whichBin bins u = some i ↔
      (∃ lo hi, bins[i]? = some lo ∧ bins[i + 1]? = some hi ∧ lo < u ∧ u ≤ hi) ∧
      ∀ j < i, ∀ lo hi, bins[j]? = some lo → bins[j + 1]? = some hi → ¬ (lo < u ∧ u ≤ hi) := by
  induction bins generalizing i with
  | nil => exact ⟨nofun, by rintro ⟨⟨_, _, h, _⟩, _⟩; cases h⟩
  | cons lo rest ih =>
    cases rest with
    | nil => exact ⟨nofun, by rintro ⟨⟨_, _, _, h, _⟩, _⟩; cases h⟩
    | cons hi rest =>
      rw [whichBin_cons_cons]
      cases i with
      | zero =>
        simp only [List.getElem?_cons_zero, List.getElem?_cons_succ, Option.some.injEq, exists_and_left,
          exists_eq_left', Nat.not_lt_zero, false_imp_iff, implies_true, and_true]
        split
        · exact iff_of_true rfl ‹_›
        · exact iff_of_false (by cases whichBin (hi :: rest) u <;> nofun) ‹_›
      | succ k =>
        -- the first bin is set apart from the bins `j < k + 1`; what remains is the claim for the tail
        have ih := ih k
        have h0 : (∀ lo' hi', (lo :: hi :: rest)[0]? = some lo' → (lo :: hi :: rest)[0 + 1]? = some hi' →
            ¬(lo' < u ∧ u ≤ hi')) ↔ ¬(lo < u ∧ u ≤ hi) :=
          ⟨fun h => h lo hi rfl rfl, fun h _ _ h1 h2 => by cases h1; cases h2; exact h⟩
        rw [Nat.forall_lt_succ_left, h0, and_left_comm]
        simp only [List.getElem?_cons_succ] at ih ⊢
        rw [← ih]
        split
        · exact iff_of_false nofun (fun h => h.1 ‹_›)
        · next hn =>
          simp only [hn, not_false_eq_true, true_and, Option.map_eq_some_iff, Nat.add_right_cancel_iff,
            exists_eq_right]

theorem prefixSums_go_head (acc : Rat) (vs : List Rat) : (prefixSums.go acc vs)[0]? = some acc := by
  cases vs <;> rfl

theorem prefixSums_go_getElem (acc : Rat) (vs : List Rat) (i : Nat) (v : Rat) (h : vs[i]? = some v) :
    ∃ a, (prefixSums.go acc vs)[i]? = some a ∧ (prefixSums.go acc vs)[i + 1]? = some (a + v) := by
  induction vs generalizing acc i with
  | nil => cases h
  | cons x xs ih =>
    cases i with
    | zero =>
      cases h
      exact ⟨acc, rfl, prefixSums_go_head _ xs⟩
    | succ i => exact ih (acc + x) i h

/-- **The width of bin `i` is the weight of slate `i`**: the bin is `(a, a + v]`. That a uniform flip
falls into it with probability `v` is the assumed law of the primitive; there is no `Dist` statement. -/
theorem C16_whichBin_width (vs : List Rat) (i : Nat) (v : Rat) (h : vs[i]? = some v) :
    ∃ a, (prefixSums vs)[i]? = some a ∧ (prefixSums vs)[i + 1]? = some (a + v) :=
  prefixSums_go_getElem 0 vs i v h

theorem rsum_map_div (vs : List Rat) (h : rsum vs ≠ 0) : rsum (vs.map (· / rsum vs)) = 1 := by
  have := rsum_map_div_total vs id (by rwa [List.map_id])
  rwa [List.map_id] at this

/-- **Renormalisation on exhaustion.** A step of the slate-pattern sampler either keeps slates and
weights (the drawn slate still has candidates) or removes exactly the used-up slate and rescales the
remaining weights to sum to one (when their total is positive). -/
theorem C16_typeStep_renormalised (sizes : List Nat) (st st' : TypeState) (flip : Rat)
    (h : typeStep sizes st flip = .continue st') :
    (st'.slates = st.slates ∧ st'.values = st.values) ∨
    ∃ bi, whichBin (prefixSums st.values) flip = some bi ∧ st'.slates = eraseAt st.slates bi ∧
      ((rsum (eraseAt st.values bi) ≠ 0 ∧ st'.values = (eraseAt st.values bi).map (· / rsum (eraseAt st.values bi)) ∧
          rsum st'.values = 1) ∨
       (rsum (eraseAt st.values bi) = 0 ∧ st'.values = eraseAt st.values bi)) := by
  unfold typeStep at h
  split at h
  · cases h -- no bin: stuck
  · rename_i bi hb
    split at h
    · cases h -- no slate at the bin: stuck
    · simp only [] at h
      split at h
      · -- the drawn slate is used up
        split at h
        · cases h -- weights gone, slates left: `shuffleRest`
        · split at h
          · rename_i h0
            cases h
            exact Or.inr ⟨bi, hb, rfl, Or.inr ⟨h0, rfl⟩⟩
          · rename_i h0
            cases h
            exact Or.inr ⟨bi, hb, rfl, Or.inl ⟨h0, rfl, rsum_map_div _ h0⟩⟩
      · cases h
        exact Or.inl ⟨rfl, rfl⟩

/-- remove the first entry for candidate `c` -/
def dropCand (c : Cand) : List (Cand × Rat) → List (Cand × Rat)
  | [] => []
  | e :: rest => if e.1 = c then rest else e :: dropCand c rest

/-- successive sampling of `k` candidates from the weights `x` -/
def plDist : Nat → List (Cand × Rat) → Dist (List Cand)
  | 0, _ => Dist.pure []
  | k + 1, x => Dist.bind (Dist.weighted x) (fun c => Dist.bind (plDist k (dropCand c x)) (fun r => Dist.pure (c :: r)))

theorem dropCand_sublist (c : Cand) (x : List (Cand × Rat)) : (dropCand c x).Sublist x := by
  induction x with
  | nil => exact List.Sublist.slnil
  | cons e es ih =>
    unfold dropCand
    split
    · exact List.sublist_cons_self _ _
    · exact ih.cons_cons _

theorem dropCand_length (c : Cand) (x : List (Cand × Rat)) (h : c ∈ x.map (·.1)) :
    (dropCand c x).length + 1 = x.length := by
  induction x with
  | nil => cases h
  | cons e es ih =>
    unfold dropCand
    split
    · rfl
    · rename_i he
      rw [List.length_cons, ih ((List.mem_cons.1 h).resolve_left (Ne.symm he)), List.length_cons]

/-- **First choice.** The first candidate of a Plackett–Luce ballot is `c` with probability
`x_c / Σ x`. -/
theorem C16_pl_first (x : List (Cand × Rat)) (c : Cand) (v : Rat) (hn : (x.map (·.1)).Nodup) (hc : (c, v) ∈ x) :
    (Dist.weighted x).prob c = v / rsum (x.map (·.2)) := prob_weighted_nodup x c v hn hc

/-- **Plackett–Luce step.** The probability of drawing the ranking `c :: r` is the share of `c` among
the remaining candidates times the probability of `r` from the rest: successive sampling without
replacement from the interval. -/
theorem C16_pl_ranking_prob (k : Nat) (x : List (Cand × Rat)) (c : Cand) (v : Rat) (r : List Cand)
    (hn : (x.map (·.1)).Nodup) (hc : (c, v) ∈ x) :
    (plDist (k + 1) x).prob (c :: r) = v / rsum (x.map (·.2)) * (plDist k (dropCand c x)).prob r := by
  rw [plDist, prob_bind_bind_cons, C16_pl_first x c v hn hc]

/-- total mass of a successive-sampling law is one as long as every step draws from a non-zero total
(all supports positive and at least `k` candidates) -/
theorem C16_pl_mass (k : Nat) (x : List (Cand × Rat)) (hpos : ∀ e ∈ x, (0 : Rat) < e.2) (hk : k ≤ x.length) :
    (plDist k x).mass = 1 := by
  induction k generalizing x with
  | zero => exact mass_pure _
  | succ k ih =>
    have hne : x ≠ [] := by rintro rfl; cases hk
    rw [plDist, mass_bind_of_forall, mass_weighted x (rsum_pos_of_pos x hne hpos).ne']
    intro ap hap
    obtain ⟨e, he, rfl⟩ := List.mem_map.1 hap
    have hlen := dropCand_length e.1 x (List.mem_map.2 ⟨e, he, rfl⟩)
    rw [mass_bind_pure, ih _ (fun e' he' => hpos e' ((dropCand_sublist e.1 x).subset he')) (by omega)]

/-- `k` independent categorical draws -/
def iidDist : Nat → List (Cand × Rat) → Dist (List Cand)
  | 0, _ => Dist.pure []
  | k + 1, x => Dist.bind (Dist.weighted x) (fun c => Dist.bind (iidDist k x) (fun r => Dist.pure (c :: r)))

/-- **Cumulative votes are i.i.d.** The probability of the vote sequence `c :: r` is the share of
`c` times the probability of `r` — drawn from the *same* interval (with replacement). -/
theorem C16_cumulative_iid (k : Nat) (x : List (Cand × Rat)) (c : Cand) (v : Rat) (r : List Cand)
    (hn : (x.map (·.1)).Nodup) (hc : (c, v) ∈ x) :
    (iidDist (k + 1) x).prob (c :: r) = v / rsum (x.map (·.2)) * (iidDist k x).prob r := by
  rw [iidDist, prob_bind_bind_cons, C16_pl_first x c v hn hc]

/-- **Detailed balance of a Metropolis step.** Two states whose weights `P`, `P'` are in the ratio
`b : a` and that accept the move to each other with `min(1, b/a)` resp. `min(1, a/b)` exchange the
same probability flow. -/
theorem rmin_detailed_balance (P P' a b : Rat) (ha : 0 < a) (hb : 0 < b) (h : P' * a = P * b) :
    P * rmin 1 (b / a) = P' * rmin 1 (a / b) := by
  have key : ∀ a b : Rat, 0 < a → rmin 1 (b / a) = min a b / a := fun a b ha => by
    rw [rmin, ← min_def, ← div_self ha.ne', min_div_div_right ha.le]
  rw [key a b ha, key b a hb, min_comm b a, ← mul_div_assoc, ← mul_div_assoc,
    div_eq_div_iff ha.ne' hb.ne', mul_right_comm, ← h, mul_right_comm]

theorem Gen.swapAt_getElem? {α} (l : List α) (j : Nat) (a b : α) (ha : l[j]? = some a) (hb : l[j + 1]? = some b) :
    (swapAt l j)[j]? = some b ∧ (swapAt l j)[j + 1]? = some a := by
  induction l generalizing j with
  | nil => cases ha
  | cons x rest ih =>
    cases j with
    | zero =>
      cases rest with
      | nil => cases hb
      | cons y rest => exact ⟨hb, ha⟩
    | succ j =>
      rw [swapAt]
      exact ih j ha hb

theorem Gen.swapAt_perm {α} (l : List α) (j : Nat) : (swapAt l j).Perm l := by
  induction l, j using swapAt.induct with
  | case1 x y rest => exact List.Perm.swap ..
  | case2 x rest j ih => rw [swapAt]; exact ih.cons x
  | case3 l j h0 hs => rw [swapAt.eq_3 l j h0 hs]

theorem Gen.swapAt_length {α} (l : List α) (j : Nat) : (swapAt l j).length = l.length :=
  (swapAt_perm l j).length_eq

/-- **Swap ratio.** Exchanging the adjacent entries `a` (above) and `b` (below) multiplies the
table weight `Π x_i^(m-1-i)` by `x_b / x_a` (stated without division). -/
theorem C16_bt_swap_ratio (vals : List Rat) (j : Nat) (a b : Rat) (ha : vals[j]? = some a) (hb : vals[j + 1]? = some b) :
    powProd (swapAt vals j) * a = powProd vals * b := by
  induction vals generalizing j with
  | nil => cases ha
  | cons x rest ih =>
    cases j with
    | zero =>
      cases rest with
      | nil => cases hb
      | cons y rest' =>
        cases ha; cases hb
        simp only [swapAt, powProd, List.length_cons, rpowNat_succ]
        ring
    | succ j =>
      simp only [swapAt, powProd, swapAt_length]
      rw [mul_assoc, ih j ha hb, mul_assoc]

/-- **Detailed balance for `_BT_mcmc`.** With acceptance `min(1, x_b/x_a)` for moving `b` above `a`
(and the same proposal probability in both directions), table weight times acceptance is the same
for a ranking and its adjacent swap — so the `_BT_pdf` table is stationary for the chain. The statement
speaks of `powProd` and `rmin` only; that `rmin 1 (x_b / x_a)` is the acceptance `mcmcStep` uses is
`kernel_bt_accept_used` (KernelsMCMC). -/
theorem C16_bt_mcmc_reversible (vals : List Rat) (j : Nat) (a b : Rat) (ha : vals[j]? = some a)
    (hb : vals[j + 1]? = some b) (hpa : 0 < a) (hpb : 0 < b) :
    powProd vals * rmin 1 (b / a) = powProd (swapAt vals j) * rmin 1 (a / b) :=
  rmin_detailed_balance _ _ a b hpa hpb (C16_bt_swap_ratio vals j a b ha hb)

theorem filter_false_swapAt (t : List Bool) (j : Nat) :
    ((swapAt t j).filter (· = false)).length = (t.filter (· = false)).length :=
  ((swapAt_perm t j).filter _).length_eq

/-- **Swap changes the success count by one.** Moving an opposing candidate above an own one at an
adjacent pair removes exactly one (own above other) pair. -/
theorem C16_slate_swap_ratio (t : List Bool) (j : Nat) (h1 : t[j]? = some true) (h2 : t[j + 1]? = some false) :
    successes (swapAt t j) + 1 = successes t := by
  induction t generalizing j with
  | nil => cases h1
  | cons a rest ih =>
    cases j with
    | zero =>
      cases rest with
      | nil => cases h2
      | cons b rest' =>
        cases h1; cases h2
        simp only [swapAt, successes, List.filter_cons_of_pos, decide_true, List.length_cons]
        omega
    | succ j =>
      have := ih j h1 h2
      cases a
      · rw [swapAt]; exact this
      · simp only [swapAt, successes, filter_false_swapAt]; omega

/-- **Detailed balance for the slate-BT chain** (cohesion strictly between 0 and 1): weight
`c^s (1-c)^(T-s)` times the acceptance probability is the same in both directions of an adjacent
own/other swap, so `_compute_ballot_type_dist` is stationary. `s` successes before, `s - 1` after. -/
theorem C16_slate_mcmc_reversible (c : Rat) (hc0 : 0 < c) (hc1 : c < 1) (t : List Bool) (j T : Nat)
    (h1 : t[j]? = some true) (h2 : t[j + 1]? = some false) (hT : successes t ≤ T) :
    ∃ a a', slateAccept c t j = some a ∧ slateAccept c (swapAt t j) j = some a' ∧
      powProd.rpowNat c (successes t) * powProd.rpowNat (1 - c) (T - successes t) * a =
      powProd.rpowNat c (successes (swapAt t j)) * powProd.rpowNat (1 - c) (T - successes (swapAt t j)) * a' := by
  obtain ⟨g1, g2⟩ := swapAt_getElem? t j true false h1 h2
  have hs := C16_slate_swap_ratio t j h1 h2
  refine ⟨rmin 1 ((1 - c) / c), rmin 1 (c / (1 - c)), ?_, ?_, ?_⟩
  · simp only [slateAccept, h1, h2, hc0.ne', if_false]
  · simp only [slateAccept, g1, g2, hc1.ne, if_false]
  · -- the weights are in the ratio `(1 - c) : c`
    apply rmin_detailed_balance _ _ c (1 - c) hc0 (sub_pos.2 hc1)
    rw [← hs, show T - successes (swapAt t j) = (T - (successes (swapAt t j) + 1)) + 1 by omega,
      rpowNat_succ, rpowNat_succ]
    ring

/-- **IC is uniform.** Under the uniform law on a duplicate-free list of rankings every ranking of
the list has probability `1 / (number of rankings)`. -/
theorem C16_ic_uniform (rankings : List (List Cand)) (r : List Cand) (hn : rankings.Nodup) (hr : r ∈ rankings) :
    (Dist.uniform rankings).prob r = 1 / (rankings.length : Rat) := by
  apply prob_mk_nodup
  · simpa only [List.map_map, Function.comp_def, List.map_id'] using hn
  · exact List.mem_map.2 ⟨r, hr, rfl⟩

theorem insertByDist_sorted (c : Cand) (d : Rat) (l : List (Cand × Rat))
    (h : l.Pairwise (fun a b => a.2 ≤ b.2)) : (insertByDist c d l).Pairwise (fun a b => a.2 ≤ b.2) := by
  induction l with
  | nil => simp [insertByDist]
  | cons e rest ih =>
    obtain ⟨c', d'⟩ := e
    rw [List.pairwise_cons] at h
    unfold insertByDist
    split
    · rename_i hle
      rw [List.pairwise_cons]
      refine ⟨?_, List.pairwise_cons.2 h⟩
      intro a ha
      rcases List.mem_cons.1 ha with rfl | ha
      · exact hle
      · exact le_trans hle (h.1 a ha)
    · rename_i hnle
      rw [List.pairwise_cons]
      refine ⟨?_, ih h.2⟩
      intro a ha
      have := (insertByDist_perm c d rest).mem_iff.1 ha
      rcases List.mem_cons.1 this with rfl | ha'
      · exact le_of_lt (lt_of_not_ge hnle)
      · exact h.1 a ha'

/-- **Spatial ballots rank by increasing distance.** For every stream (every list of distances) the
ballot is a rearrangement of the candidates in non-decreasing distance from the voter. -/
theorem C16_spatial_sorted (cds : List (Cand × Rat)) :
    (sortByDist cds).Perm cds ∧ (sortByDist cds).Pairwise (fun a b => a.2 ≤ b.2) := by
  refine ⟨C14_sort_perm cds, ?_⟩
  unfold sortByDist
  induction cds with
  | nil => simp
  | cons e rest ih => simpa using insertByDist_sorted e.1 e.2 _ ih

/-- **Crossover ballots alternate**: position `2i` holds the `i`-th opposing candidate of the drawn
order, position `2i+1` the `i`-th own candidate; bloc ballots are the own order followed by the
opposing order (`bc ++ oc`, by definition of `runAC`). -/
theorem C16_alternate_structure (os bs : List Cand) (i : Nat) (h : i < min os.length bs.length) :
    (alternate os bs)[2 * i]? = os[i]? ∧ (alternate os bs)[2 * i + 1]? = bs[i]? := by
  induction os generalizing bs i with
  | nil => cases h
  | cons o os ih =>
    cases bs with
    | nil => cases h
    | cons b bs =>
      cases i with
      | zero => exact ⟨rfl, rfl⟩
      | succ i => exact ih bs i (Nat.lt_of_succ_lt_succ (Nat.succ_min_succ .. ▸ h))

/-- **Restriction keeps the drawn order.** The candidates of one slate appear on a Cambridge ballot in
the relative order of the Plackett–Luce draw (`[c for c in pl_ordering if c in slate]`). -/
theorem C16_filter_order (pl : List Cand) (slate : List Cand) :
    (pl.filter (slate.contains ·)).Sublist pl := List.filter_sublist

/-- The full distributional statement for the slate models that draw on the *combined* interval and
restrict (CambridgeSampler): restricting a Plackett–Luce order to a slate is Plackett–Luce on that
slate's supports (`C16_pl_restriction`). -/
def PLRestrictionConsistent : Prop :=
  ∀ (x : List (Cand × Rat)) (slate : List Cand) (r : List Cand),
    (x.map (·.1)).Nodup → (∀ e ∈ x, (0 : Rat) < e.2) →
    rsum ((plDist x.length x).supp.filter (fun op => op.1.filter (slate.contains ·) = r) |>.map (·.2)) =
      (plDist (x.filter (fun e => slate.contains e.1)).length (x.filter (fun e => slate.contains e.1))).prob r

example : whichBin (prefixSums [1/2, 1/4, 1/4]) (5/8) = some 1 := by decide +kernel
example : mcmcStep [(0, 1/4), (1, 3/4)] [1, 0] 0 (1/5) = some [0, 1] := by decide +kernel
example : slateMcmcStep (1/5) [true, false] 0 (9/10) = some [false, true] := by decide +kernel
example : (plDist 2 [(0, 1/2), (1, 1/2)]).prob [0, 1] = 1/2 := by decide +kernel

end VK
