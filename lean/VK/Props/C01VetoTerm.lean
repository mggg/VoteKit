/-
  C01 for PluralityVeto, termination. The rule loops for ever on some inputs (finding F-C01-f,
  witness `C01_veto_loops_at`); this file proves the guard under which it cannot:
  if all candidates are to be seated, or at least m + 1 candidates have a first-place vote, then for
  every tiebreak, processing order and sample stream the run ends with a result or an exception —
  the model never runs out of fuel.

  The argument: a full pass of the voters must strike somebody, because the tallies add up to the
  number of ballots that still rank a candidate and every such ballot takes one point away
  (`vetoLoop_no_strike`, `fpv_posSum`); so every round after the first removes exactly one candidate, the first
  removes the zero-tally candidates and at most one more, and the number of standing candidates
  walks down to m without jumping below it.
-/
import VK.Props.C01Veto

namespace VK

def posSum (sc : List (Cand × Rat)) : Rat := rsum (sc.map (fun cs => if 0 < cs.2 then cs.2 else 0))

theorem posSum_cons (x : Cand × Rat) (sc : List (Cand × Rat)) :
    posSum (x :: sc) = (if 0 < x.2 then x.2 else 0) + posSum sc := rfl

theorem posSum_append (a b : List (Cand × Rat)) : posSum (a ++ b) = posSum a + posSum b := by
  unfold posSum
  rw [List.map_append, rsum_append]

theorem posSum_nonneg (sc : List (Cand × Rat)) : 0 ≤ posSum sc := by
  apply rsum_nonneg
  intro x hx
  obtain ⟨cs, _, rfl⟩ := List.mem_map.1 hx
  split
  · rename_i h; exact le_of_lt h
  · exact le_refl _

theorem decScore_posSum {c : Cand} {sc sc' : List (Cand × Rat)} {v : Rat}
    (h : decScore c sc = .ok (sc', v)) (hv : 0 < v) :
    posSum sc = posSum sc' + 1 ∧ 0 < posSum sc' := by
  obtain ⟨l, r, rfl, rfl⟩ := decScore_ok h
  have hl := posSum_nonneg l
  have hr := posSum_nonneg r
  rw [posSum_append, posSum_append, posSum_cons, posSum_cons, if_pos hv, if_pos (add_pos hv one_pos)]
  exact ⟨by ring, add_pos_of_nonneg_of_pos hl (add_pos_of_pos_of_nonneg hv hr)⟩

def liveCount (p : Profile) (order : List Nat) : Nat := (order.filter (liveAt p)).length

theorem liveCount_cons (p : Profile) (bi : Nat) (rest : List Nat) :
    liveCount p (bi :: rest) = liveCount p rest + (liveAt p bi).toNat := by
  unfold liveCount
  rw [List.filter_cons]
  cases liveAt p bi <;> rfl

/-- a pass without a strike takes fewer live ballots than the positive tallies add up to -/
theorem vetoLoop_no_strike (p : Profile) (tb : Option TB) (order : List Nat) (i : Nat)
    (sc : List (Cand × Rat)) (smp : List (List Cand)) (tbs : List (List Cand × Ranking))
    (out : VetoOut)
    (h : vetoLoop p tb order i sc smp tbs = .ok out) (hc : out.struck = none) :
    liveCount p order = 0 ∨ ((liveCount p order : Nat) : Rat) < posSum sc := by
  induction order generalizing i sc smp tbs with
  | nil => left; rfl
  | cons bi rest ih =>
    rw [liveCount_cons]
    rcases vetoLoop_cons h with ⟨hl, h⟩ | ⟨hl, least, smp', tbs', h⟩ | ⟨e, h⟩ | h
    · rw [hl]
      exact ih _ _ _ _ h.symm
    · obtain ⟨⟨sc', v⟩, hd, h⟩ := Outcome.bind_eq_ok.1 h.symm
      dsimp only at h
      split at h
      · cases h; cases hc
      · -- the voter took one point and the rest of the pass, by induction, fewer than were left
        rename_i hv
        obtain ⟨k1, k2⟩ := decScore_posSum hd (lt_of_not_ge hv)
        right
        rw [hl, k1, Bool.toNat_true, Nat.cast_add_one]
        rcases ih _ _ _ _ h with h0 | hlt
        · rw [h0, Nat.cast_zero, zero_add]
          exact lt_add_of_pos_left _ k2
        · exact add_lt_add_left hlt 1
    · cases h
    · cases h

theorem posSum_of_nonneg (sc : List (Cand × Rat)) (h : ∀ cs ∈ sc, 0 ≤ cs.2) :
    posSum sc = rsum (sc.map (·.2)) := by
  unfold posSum
  congr 1
  apply List.map_congr_left
  intro cs hcs
  split
  · rfl
  · rename_i hn
    exact le_antisymm (h cs hcs) (le_of_not_gt hn)

/-- the completed ballot (`add_missing_cands`) is again a ranking without repeats over the
declared candidates with non-empty positions, and it lists somebody -/
theorem addMissingBallot_wf (cands : List Cand) (hc : cands.Nodup) (b : Ballot)
    (hne : b.ranking ≠ []) (hpos : ∀ s ∈ b.ranking, s ≠ []) (hnd : b.ranking.flatten.Nodup)
    (hsub : ∀ c ∈ b.ranking.flatten, c ∈ cands) :
    (addMissingBallot cands b).ranking.flatten.Nodup ∧
    (∀ c ∈ (addMissingBallot cands b).ranking.flatten, c ∈ cands) ∧
    (∀ s ∈ (addMissingBallot cands b).ranking, s ≠ []) ∧
    1 ≤ (addMissingBallot cands b).ranking.flatten.length := by
  have hlen : 1 ≤ b.ranking.flatten.length := by
    obtain ⟨s, hs⟩ := List.exists_mem_of_ne_nil _ hne
    obtain ⟨x, hx⟩ := List.exists_mem_of_ne_nil _ (hpos s hs)
    exact List.length_pos_of_mem (List.mem_flatten.2 ⟨s, hs, hx⟩)
  have hfl : (b.ranking ++ [missingCands cands b.ranking]).flatten =
      b.ranking.flatten ++ missingCands cands b.ranking := by
    rw [List.flatten_append, List.flatten_cons, List.flatten_nil, List.append_nil]
  unfold addMissingBallot
  dsimp only
  by_cases hmiss : (missingCands cands b.ranking).isEmpty = true
  · rw [if_pos hmiss]
    exact ⟨hnd, hsub, hpos, hlen⟩
  · rw [if_neg hmiss, hfl]
    refine ⟨List.nodup_append.2 ⟨hnd, hc.filter _, ?_⟩, ?_, ?_, ?_⟩
    · -- a missing candidate is not on the ballot
      intro a ha a' ha' hab
      have := (List.mem_filter.1 (hab ▸ ha')).2
      simp only [Bool.not_eq_true', List.contains_eq_mem, decide_eq_false_iff_not] at this
      exact this ha
    · intro c hcm
      rcases List.mem_append.1 hcm with h | h
      · exact hsub c h
      · exact (List.mem_filter.1 h).1
    · intro s hs
      rcases List.mem_append.1 hs with h | h
      · exact hpos s h
      · rw [List.mem_singleton.1 h]
        exact fun e => hmiss (by rw [e]; rfl)
    · rw [List.length_append]; omega

/-- the first-place tallies of unit ballots add up to the number of ballots -/
theorem fpv_posSum (q : Profile) (sc : List (Cand × Rat)) (h : firstPlaceVotes q = .ok sc)
    (hc : q.cands.Nodup)
    (hne : ∀ b ∈ q.ballots, b.ranking ≠ [])
    (hpos : ∀ b ∈ q.ballots, ∀ s ∈ b.ranking, s ≠ [])
    (hnd : ∀ b ∈ q.ballots, b.ranking.flatten.Nodup)
    (hsub : ∀ b ∈ q.ballots, ∀ c ∈ b.ranking.flatten, c ∈ q.cands)
    (hw : ∀ b ∈ q.ballots, b.weight = 1) :
    posSum sc = (q.ballots.length : Rat) ∧ ∀ cs ∈ sc, 0 ≤ cs.2 := by
  have hspec := C04_score_spec q (fpvVector q.cands.length) sc h
  rw [padVector_fpv] at hspec
  have hnn : ∀ cs ∈ sc, 0 ≤ cs.2 := by
    intro cs hcs
    rw [hspec] at hcs
    obtain ⟨c, _, rfl⟩ := List.mem_map.1 hcs
    simp only
    apply rsum_nonneg
    intro x hx
    obtain ⟨b, hb, rfl⟩ := List.mem_map.1 hx
    rw [hw b hb, mul_one]
    exact ballotPoints_nonneg _ (fpvVector_nonneg _) _ _
  refine ⟨?_, hnn⟩
  -- ballot by ballot, the points of all candidates add up to the first entry of the vector
  have hone : ∀ b ∈ q.ballots, rsum (q.cands.map (fun c =>
      ballotPoints (fpvVector q.cands.length) (addMissingBallot q.cands b).ranking c * b.weight)) = 1 := by
    intro b hb
    obtain ⟨w1, w2, w3, w4⟩ := addMissingBallot_wf q.cands hc b (hne b hb) (hpos b hb) (hnd b hb) (hsub b hb)
    rw [rsum_map_mul_right, C04_ballot_total _ _ _ hc w1 w2 w3, rsum_take_fpv _ _ w4, hw b hb, mul_one]
  rw [posSum_of_nonneg sc hnn, hspec, List.map_map]
  show rsum (q.cands.map (fun c => rsum (q.ballots.map (fun b => _)))) = _
  rw [rsum_comm, List.map_congr_left hone, rsum_const_mul, mul_one]

theorem noFuel_decScore (c : Cand) (sc : List (Cand × Rat)) : NoFuel (decScore c sc) := by
  induction sc with
  | nil => exact noFuel_raised _
  | cons x rest ih =>
    obtain ⟨d, s⟩ := x
    unfold decScore
    split
    · exact noFuel_ok _
    · exact noFuel_bind _ _ ih (fun _ => noFuel_pure _)

theorem noFuel_vetoLoop (p : Profile) (tb : Option TB) (order : List Nat) (i : Nat)
    (sc : List (Cand × Rat)) (smp : List (List Cand)) (tbs : List (List Cand × Ranking)) :
    NoFuel (vetoLoop p tb order i sc smp tbs) := by
  induction order generalizing i sc smp tbs with
  | nil =>
    cases i
    · exact noFuel_raised _
    · exact noFuel_ok _
  | cons bi rest ih =>
    rcases vetoLoop_cons rfl with ⟨_, h⟩ | ⟨_, least, smp', tbs', h⟩ | ⟨e, h⟩ | h <;> rw [h]
    · exact ih _ _ _ _
    · refine noFuel_bind _ _ (noFuel_decScore _ _) (fun x => ?_)
      dsimp only
      split
      · exact noFuel_pure _
      · exact ih _ _ _ _
    · exact noFuel_raised e
    · exact noFuel_mismatch

theorem noFuel_pvRound (tb : Option TB) (st : PVState) (prev : RoundState) : NoFuel (pvRound tb st prev) := by
  unfold pvRound
  refine noFuel_bind _ _ (noFuel_vetoLoop _ _ _ _ _ _ _) ?_
  intro out
  exact noFuel_bind _ _ (noFuel_scoreFromRankings _ _) (fun _ => noFuel_pure _)

/-- beyond `PvWF`, for termination: live ballots have weight 1 and list nobody twice -/
structure PvWF2 (p : Profile) : Prop where
  unitw : ∀ b ∈ p.ballots, b.ranking ≠ [] → b.weight = 1
  nodupb : ∀ b ∈ p.ballots, b.ranking.flatten.Nodup

theorem pvWF2_remove (removed : List Cand) (p : Profile) (h : PvWF2 p) :
    PvWF2 (removeCand removed p (cond := false) (leaveZero := true)) := by
  refine ⟨?_, ?_⟩
  all_goals
    intro b' hb'
    rw [removeCand_veto_ballots] at hb'
    obtain ⟨b, hb, rfl⟩ := List.mem_map.1 hb'
  · intro hne
    rw [scrubBallot_weight hne]
    exact h.unitw b hb (fun e => hne (by rw [scrubBallot_ranking, e, scrubRanking_nil]))
  · rw [scrubBallot_ranking, C12_order]
    exact (h.nodupb b hb).filter _

def liveBallots (p : Profile) : List Ballot := p.ballots.filter (fun b => !b.ranking.isEmpty)

theorem liveCount_range_aux (l : List Ballot) :
    ((List.range l.length).filter (fun i => match l[i]? with
      | some b => !b.ranking.isEmpty
      | none => false)).length = (l.filter (fun b => !b.ranking.isEmpty)).length := by
  induction l with
  | nil => rfl
  | cons x xs ih =>
    -- both sides count the head if it is live, and then the indices / ballots of the tail
    rw [List.length_cons, List.range_succ_eq_map, List.filter_cons, List.filter_cons, List.filter_map,
      apply_ite List.length, apply_ite List.length, List.length_cons, List.length_cons, List.length_map, ← ih]
    rfl

/-- beyond `PvInv`, for termination: the processing order is a rearrangement of the ballot indices, and
the tallies add up to the number of live ballots -/
structure PvInv2 (st : PVState) (prev : RoundState) : Prop where
  wf2 : PvWF2 st.prof
  order : st.order.Perm (List.range st.prof.ballots.length)
  sum : posSum prev.scores = ((liveBallots st.prof).length : Rat)

theorem liveCount_order (st : PVState) (prev : RoundState) (inv2 : PvInv2 st prev) :
    liveCount st.prof st.order = (liveBallots st.prof).length := by
  unfold liveCount liveBallots
  exact (inv2.order.filter _).length_eq.trans (liveCount_range_aux st.prof.ballots)

/-- tallies of the ballots that still rank somebody add up to their number -/
theorem scoreProfile_sum (p : Profile) (h : PvWF p) (h2 : PvWF2 p) (sc : List (Cand × Rat))
    (hf : firstPlaceVotes (scoreProfile p) = .ok sc) : posSum sc = ((liveBallots p).length : Rat) := by
  have hlive : ∀ b ∈ (scoreProfile p).ballots, b ∈ p.ballots ∧ b.ranking ≠ [] := by
    intro b hb
    obtain ⟨hbp, hl⟩ := List.mem_filter.1 hb
    exact ⟨hbp, fun e => by rw [e] at hl; cases hl⟩
  exact (fpv_posSum (scoreProfile p) sc hf (sortCands_nodup _) (fun b hb => (hlive b hb).2)
    (fun b hb => h.pos b (hlive b hb).1) (fun b hb => h2.nodupb b (hlive b hb).1)
    (fun b hb c hc => (mem_scoreProfile_cands h).2 ⟨b, (hlive b hb).1, hc⟩)
    (fun b hb => h2.unitw b (hlive b hb).1 (hlive b hb).2)).1

/-- with a ballot still ranking somebody, the pass strikes a candidate; `PvInv2` is kept -/
theorem pvRound_progress (cands : List Cand) (hcn : cands.Nodup) (tb : Option TB) (st st' : PVState)
    (prev s : RoundState) (acc : List RoundState) (inv : PvInv cands st prev acc) (inv2 : PvInv2 st prev)
    (hlive : liveBallots st.prof ≠ [])
    (h : pvRound tb st prev = .ok (st', s)) :
    PvInv2 st' s ∧ ∃ c0, s.eliminated.flatten = sortCands (zeroOf prev ++ [c0]) := by
  have hinv' := pvRound_inv cands hcn tb st st' prev s acc inv h
  obtain ⟨out, sc, elimNow, hv, hel, hf, rfl, rfl⟩ := pvRound_ok h
  -- the pass must have struck somebody
  obtain ⟨c0, hc0⟩ : ∃ c0, out.struck = some c0 := by
    cases hsn : out.struck with
    | some c0 => exact ⟨c0, rfl⟩
    | none =>
      exfalso
      have hlen : 0 < (liveBallots st.prof).length := List.length_pos_of_ne_nil hlive
      rcases vetoLoop_no_strike _ _ _ _ _ _ _ out hv hsn with h0 | hlt
      · rw [liveCount_order st prev inv2] at h0; omega
      · rw [liveCount_order st prev inv2, inv2.sum] at hlt
        exact lt_irrefl _ hlt
  rw [hc0] at hel
  refine ⟨⟨pvWF2_remove elimNow st.prof inv2.wf2, ?_, ?_⟩, c0, hel ▸ flatten_ite_isEmpty _⟩
  · show List.Perm _ (List.range (removeCand elimNow st.prof (cond := false) (leaveZero := true)).ballots.length)
    rw [removeCand_veto_ballots, List.length_map]
    exact List.perm_append_comm.trans ((List.take_append_drop _ _).symm ▸ inv2.order)
  · exact scoreProfile_sum _ hinv'.wf (pvWF2_remove elimNow st.prof inv2.wf2) sc hf

theorem posSum_pos_of_mem (sc : List (Cand × Rat)) (cs : Cand × Rat) (h : cs ∈ sc) (hp : 0 < cs.2) :
    0 < posSum sc := by
  obtain ⟨l, r, rfl⟩ := List.append_of_mem h
  rw [posSum_append, posSum_cons, if_pos hp]
  linarith [posSum_nonneg l, posSum_nonneg r]

def positiveCount (sc : List (Cand × Rat)) : Nat := (sc.filter (fun cs => decide (0 < cs.2))).length

theorem zeroOf_length_add_positiveCount (prev : RoundState) (h0 : prev.round = 0) :
    (zeroOf prev).length + positiveCount prev.scores = prev.scores.length := by
  have h1 := List.length_eq_length_filter_add (l := prev.scores) (fun cs => decide (cs.2 ≤ 0))
  have h2 : prev.scores.filter (fun cs => !decide (cs.2 ≤ 0)) = prev.scores.filter (fun cs => decide (0 < cs.2)) :=
    List.filter_congr (fun cs _ => decide_not.symm.trans (decide_eq_decide.2 not_le))
  rw [zeroOf_first h0, positiveCount, List.length_map, ← h2]
  exact h1.symm

/-- while more candidates stand than there are seats, the guard leaves a ballot that ranks somebody:
before round 1 a positive tally, later a ballot headed by a standing candidate -/
theorem live_of_guard {cands : List Cand} {st : PVState} {prev : RoundState} {acc : List RoundState}
    {m : Nat} (inv : PvInv cands st prev acc) (inv2 : PvInv2 st prev) (hgt : m < st.prof.cands.length)
    (hguard : prev.round = 0 → st.prof.cands.length = m ∨ m + 1 ≤ positiveCount prev.scores) :
    liveBallots st.prof ≠ [] := by
  by_cases h0 : prev.round = 0
  · rcases hguard h0 with hg | hg
    · omega
    · obtain ⟨cs, hcs⟩ := List.exists_mem_of_length_pos (show 0 < positiveCount prev.scores by omega)
      obtain ⟨hcs1, hcs2⟩ := List.mem_filter.1 hcs
      have hpos := posSum_pos_of_mem prev.scores cs hcs1 (of_decide_eq_true hcs2)
      rw [inv2.sum] at hpos
      intro e
      rw [e] at hpos
      exact lt_irrefl _ hpos
  · obtain ⟨c, hc⟩ := List.exists_mem_of_length_pos (show 0 < st.prof.cands.length by omega)
    obtain ⟨b, hb, hd, tl, hrk, _⟩ := inv.later h0 c hc
    exact List.ne_nil_of_mem (List.mem_filter.2 ⟨hb, by rw [hrk]; rfl⟩)

/-- the guard in numbers: the candidates that round 1 drops for want of a first-place vote leave more
than `m` standing -/
theorem zeroOf_length_guard {cands : List Cand} {st : PVState} {prev : RoundState} {acc : List RoundState}
    {m : Nat} (inv : PvInv cands st prev acc) (hgt : m < st.prof.cands.length)
    (hguard : prev.round = 0 → st.prof.cands.length = m ∨ m + 1 ≤ positiveCount prev.scores) :
    (zeroOf prev).length + m + 1 ≤ st.prof.cands.length := by
  by_cases h0 : prev.round = 0
  · rcases hguard h0 with hg | hg
    · omega
    · have hz := zeroOf_length_add_positiveCount prev h0
      have hk : prev.scores.length = st.prof.cands.length := by
        rw [← scoreFromRankings_keys _ _ _ (inv.first h0).1, List.length_map]
      omega
  · rw [zeroOf_later h0, List.length_nil, Nat.zero_add]
    exact hgt

/-- One round under the guard: the pass strikes somebody, so the standing candidates become fewer;
they stay at least `m`, because round 1 removes the candidates without a first-place vote and one more,
every later round exactly one. -/
theorem pvRound_standing (cands : List Cand) (hcn : cands.Nodup) (m : Nat) (tb : Option TB)
    (st st' : PVState) (prev s : RoundState) (acc : List RoundState)
    (inv : PvInv cands st prev acc) (inv2 : PvInv2 st prev) (hgt : m < st.prof.cands.length)
    (hguard : prev.round = 0 → st.prof.cands.length = m ∨ m + 1 ≤ positiveCount prev.scores)
    (h : pvRound tb st prev = .ok (st', s)) :
    PvInv2 st' s ∧ s.round ≠ 0 ∧ m ≤ st'.prof.cands.length ∧ st'.prof.cands.length < st.prof.cands.length := by
  obtain ⟨hinv2', c0, hflat⟩ :=
    pvRound_progress cands hcn tb st st' prev s acc inv inv2 (live_of_guard inv inv2 hgt hguard) h
  have hsr : s.round = prev.round + 1 := by
    obtain ⟨_, _, _, _, _, _, _, rfl⟩ := pvRound_ok h
    rfl
  -- the standing candidates before and after, through the partition with the eliminated ones
  have h1 := inv.part.length_eq
  have h2 := (pvRound_inv cands hcn tb st st' prev s acc inv h).part.length_eq
  rw [eliminatedIn_cons, hflat] at h2
  simp only [List.length_append] at h1 h2
  have hW1 : 1 ≤ (sortCands (zeroOf prev ++ [c0])).length :=
    List.length_pos_of_mem ((mem_sortCands _ _).2 (List.mem_append_right _ (List.mem_singleton_self _)))
  have hWle := sortCands_length_le (zeroOf prev ++ [c0])
  rw [List.length_append, List.length_singleton] at hWle
  have hz := zeroOf_length_guard inv hgt hguard
  exact ⟨hinv2', hsr ▸ Nat.succ_ne_zero _, by omega, by omega⟩

/-- **The loop never runs out of fuel** when the standing candidates are at least the seats, the fuel
covers the candidates still to be removed, and — before the first round — either everybody is to be
seated or at least `m + 1` candidates have a first-place vote. -/
theorem pvLoop_noFuel_of_guard (cands : List Cand) (hcn : cands.Nodup) (m : Nat) (tb : Option TB) (fuel : Nat)
    (st : PVState) (prev : RoundState) (acc : List RoundState)
    (inv : PvInv cands st prev acc) (inv2 : PvInv2 st prev)
    (hm : m ≤ st.prof.cands.length) (hfuel : st.prof.cands.length - m + 1 ≤ fuel)
    (hguard : prev.round = 0 → st.prof.cands.length = m ∨ m + 1 ≤ positiveCount prev.scores) :
    NoFuel (pvLoop m tb cands.length fuel st prev acc) := by
  induction fuel generalizing st prev acc with
  | zero => omega
  | succ fuel ih =>
    rw [pvLoop_succ inv]
    by_cases hcond : st.prof.cands.length = m
    · rw [if_pos hcond]
      split
      · exact noFuel_ok _
      · exact noFuel_mismatch
    · rw [if_neg hcond]
      refine noFuel_bind_ok (noFuel_pvRound tb st prev) fun ⟨st', s⟩ hr => ?_
      obtain ⟨hinv2', hs0, hm', hlt⟩ :=
        pvRound_standing cands hcn m tb st st' prev s acc inv inv2 (lt_of_le_of_ne hm (Ne.symm hcond)) hguard hr
      exact ih st' s (s :: acc) (pvRound_inv cands hcn tb st st' prev s acc inv hr) hinv2' hm'
        (Nat.lt_of_lt_of_le (Nat.sub_lt_sub_right hm' hlt) (Nat.le_of_succ_le_succ hfuel))
        (fun h0 => absurd h0 hs0)

theorem pvLoop_noFuel (cands : List Cand) (hcn : cands.Nodup) (m : Nat) (hm1 : 1 ≤ m) (tb : Option TB) (fuel : Nat)
    (st : PVState) (prev : RoundState) (acc : List RoundState)
    (inv : PvInv cands st prev acc) (inv2 : PvInv2 st prev)
    (hm : m ≤ st.prof.cands.length) (hfuel : st.prof.cands.length - m + 1 ≤ fuel)
    (hguard : prev.round = 0 → st.prof.cands.length = m ∨ m + 1 ≤ positiveCount prev.scores) :
    NoFuel (pvLoop m tb cands.length fuel st prev acc) :=
  pvLoop_noFuel_of_guard cands hcn m tb fuel st prev acc inv inv2 hm hfuel hguard

theorem perm_range_of_check (order : List Nat) (k : Nat) (h : isPermOfRange order k = true) :
    order.Perm (List.range k) := by
  unfold isPermOfRange at h
  simp only [Bool.and_eq_true, decide_eq_true_eq, List.all_eq_true, List.contains_iff_mem, List.mem_range] at h
  obtain ⟨hlen, hall⟩ := h
  have hsub : List.range k ⊆ order := fun i hi => hall i (List.mem_range.1 hi)
  have hsp : List.Subperm (List.range k) order := List.subperm_of_subset List.nodup_range hsub
  exact (hsp.perm_of_length_le (by simp [hlen])).symm

theorem pvInv2_init {p0 : Profile} {sc0 : List (Cand × Rat)} (wf : PvWF p0)
    (hne : ∀ b ∈ p0.ballots, b.ranking ≠ []) (hw : ∀ b ∈ p0.ballots, b.weight = 1)
    (hnd : ∀ b ∈ p0.ballots, b.ranking.flatten.Nodup) (hf : firstPlaceVotes p0 = .ok sc0)
    {order : List Nat} (hperm : order.Perm (List.range p0.ballots.length)) (samples : List (List Cand)) :
    PvInv2 { prof := p0, order := order, elim := [], samples := samples } (initialState p0.cands (some sc0)) := by
  refine ⟨⟨fun b hb _ => hw b hb, hnd⟩, hperm, ?_⟩
  have hlive : liveBallots p0 = p0.ballots := by
    refine List.filter_eq_self.2 (fun b hb => ?_)
    cases hr : b.ranking with
    | nil => exact absurd hr (hne b hb)
    | cons _ _ => rfl
  show posSum sc0 = ((liveBallots p0).length : Rat)
  rw [hlive]
  exact (fpv_posSum p0 sc0 hf wf.nodup hne wf.pos hnd wf.cast hw).1

/-- **Termination guard for PluralityVeto.** For every profile with a duplicate-free candidate list whose
ballots mention only declared candidates, never one twice, and have no empty position: if all
candidates are to be seated or at least `m + 1` candidates have a first-place vote, then for every
tiebreak, processing order and sample stream the run ends with a result or an exception — never with
the endless loop of finding F-C01-f (whose witness `C01_veto_loops_at` has one candidate with a
first-place vote for two seats). -/
theorem C01_veto_terminates (p : Profile) (m : Int) (tb : Option TB) (ω : PVOracle)
    (hn : p.cands.Nodup)
    (hcast : ∀ b ∈ p.ballots, ∀ c ∈ b.ranking.flatten, c ∈ p.cands)
    (hpos : ∀ b ∈ p.ballots, ∀ s ∈ b.ranking, s ≠ [])
    (hnd : ∀ b ∈ p.ballots, b.ranking.flatten.Nodup)
    (hguard : ∀ sc0, firstPlaceVotes { ballots := decondense p.ballots, cands := p.cands } = .ok sc0 →
      m.toNat = p.cands.length ∨ m.toNat + 1 ≤ positiveCount sc0) :
    NoFuel (pluralityVetoRun p m tb ω) := by
  rcases pluralityVetoRun_eq rfl with (⟨e, he⟩ | he) | ⟨sc0, hall, hm0, hmn, hperm, hf, hrun⟩
  · rw [he]; exact noFuel_raised e
  · rw [he]; exact noFuel_mismatch
  · have wf := pvWF_decondense hn hcast hpos
    have hdec : ∀ b' ∈ decondense p.ballots, b'.weight = 1 ∧ b'.ranking.flatten.Nodup := by
      intro b' hb'
      obtain ⟨b, hb, hr, hw, _⟩ := mem_decondense _ b' hb'
      exact ⟨hw, hr ▸ hnd b hb⟩
    rw [hrun]
    exact pvLoop_noFuel_of_guard p.cands hn m.toNat tb _ _ _ _ (pvInv_init wf hall hf _ _)
      (pvInv2_init wf hall (fun b' hb' => (hdec b' hb').1) (fun b' hb' => (hdec b' hb').2) hf
        (perm_range_of_check _ _ hperm) _)
      (Int.toNat_le.2 hmn) (Nat.succ_le_succ (Nat.le_succ_of_le (Nat.sub_le _ _)))
      (fun _ => (hguard sc0 hf).imp Eq.symm id)

/-- non-vacuity: every hypothesis of `C01_veto_terminates`, the guard included, holds on `vetoProfile`
(three candidates, each with a first-place vote, one seat) -/
example : NoFuel (pluralityVetoRun vetoProfile 1 none { order := [2, 0, 3, 1] }) := by
  apply C01_veto_terminates
  · decide
  · decide
  · decide
  · decide
  · intro sc0 h
    have hv : firstPlaceVotes { ballots := decondense vetoProfile.ballots, cands := vetoProfile.cands } =
        .ok [(0, 2), (1, 1), (2, 1)] := by decide +kernel
    rw [hv] at h
    injection h with h
    subst h
    right
    decide +kernel

end VK
