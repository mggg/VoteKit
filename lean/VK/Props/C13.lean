/-
  Property C13 — composite and alias rules equal the composition they are documented to be.
  In the model the aliases are *defined* as the composition; the content of these statements is
  the correspondence check, which runs the implementation's own IRV / SNTV / SequentialRCV /
  TopTwo / Alaska classes against these definitions (and against separately constructed
  component elections of the implementation).
-/
import VK.Model.Rules
import VK.Lemmas.Outcome

namespace VK

theorem C13_irv (p : Profile) (quota : Quota) (tb : Option TB) (ω : STVOracle) :
    irvRun p quota tb ω = stvRun { m := 1, quota := quota, tiebreak := tb } p ω := rfl

theorem C13_sntv (p : Profile) (m : Nat) (tb : Option TB) (pri : List Cand) :
    sntvRun p m tb pri = pluralityRun p m tb pri := rfl

theorem C13_seqrcv (cfg : STVCfg) (p : Profile) (ω : STVOracle) :
    seqRCVRun cfg p ω = stvRun { cfg with transfer := .full } p ω := rfl

/-- the shared first stage, when it returns: Plurality gave two rounds, and the stage is read off them -/
theorem finalistStage_ok {p : Profile} {k : Nat} {tb : Option TB} {pri : List Cand}
    {x : RoundState × RoundState × Profile} (h : finalistStage p k tb pri = .ok x) :
    ∃ sc0 r0 s1 sc1, firstPlaceVotes p = .ok sc0 ∧ pluralityRun p k tb pri = .ok [r0, s1] ∧
      firstPlaceVotes (removeCand s1.remaining.flatten p) = .ok sc1 ∧
      x = (initialState p.cands (some sc0),
        { round := 1, remaining := s1.elected, elected := [], eliminated := s1.remaining,
          tiebreaks := s1.tiebreaks, scores := sc1 }, removeCand s1.remaining.flatten p) := by
  unfold finalistStage at h
  obtain ⟨sc0, h0, h⟩ := Outcome.bind_eq_ok.1 h
  obtain ⟨pl, hpl, h⟩ := Outcome.bind_eq_ok.1 h
  -- for every other shape of `pl` the stage raises, and `h` is closed by the elaborator as `raised = ok`
  match pl, hpl, h with
  | [r0, s1], hpl, h =>
    obtain ⟨sc1, h1, h⟩ := Outcome.bind_eq_ok.1 h
    cases h
    exact ⟨sc0, r0, s1, sc1, h0, hpl, h1, rfl⟩

/-- **TopTwo** = Plurality for two finalists; every other candidate is removed from every ballot;
the winner is the Plurality(1) winner of what remains, recorded as round 2. -/
theorem C13_toptwo (p : Profile) (tb : Option TB) (pri : Nat → List Cand) (st : States)
    (h : topTwoRun p tb pri = .ok st) :
    ∃ (st0 s1 b0 sf : RoundState), pluralityRun p 2 tb (pri 1) = .ok [st0, s1] ∧
      pluralityRun (removeCand s1.remaining.flatten p) 1 tb (pri 2) = .ok [b0, sf] ∧
      st.length = 3 ∧ st[2]? = some { sf with round := 2 } ∧
      (st[1]?).map (·.remaining) = some s1.elected ∧ (st[1]?).map (·.eliminated) = some s1.remaining := by
  unfold topTwoRun at h
  obtain ⟨x, hfs, h⟩ := Outcome.bind_eq_ok.1 (Outcome.ite_raised_eq_ok.1 h).2
  obtain ⟨sc0, st0, s1, sc1, -, h1, -, rfl⟩ := finalistStage_ok hfs
  obtain ⟨pl, h2, h⟩ := Outcome.bind_eq_ok.1 h
  match pl, h2, h with
  | [b0, sf], h2, h =>
    cases h
    exact ⟨st0, s1, b0, sf, h1, h2, rfl, rfl, rfl, rfl⟩

/-- **Alaska** = Plurality for `m_1` finalists, the losers removed from every ballot, then STV for
`m_2` seats on what remains, with the STV rounds renumbered consecutively after round 1. -/
theorem C13_alaska (p : Profile) (m1 m2 : Int) (cfg : STVCfg) (ω : STVOracle) (st : States)
    (h : alaskaRun p m1 m2 cfg ω = .ok st) :
    ∃ st0 s1 res, pluralityRun p m1.toNat cfg.tiebreak (ω.pri 1) = .ok [st0, s1] ∧
      stvRun { cfg with m := m2.toNat } (removeCand s1.remaining.flatten p)
        { pri := fun r => ω.pri (r + 1), sample := fun r => ω.sample (r + 1) } = .ok res ∧
      st.drop 2 = (res.states.drop 1).map (fun s => { s with round := s.round + 1 }) ∧
      (st[1]?).map (·.remaining) = some s1.elected ∧ (st[1]?).map (·.eliminated) = some s1.remaining := by
  unfold alaskaRun at h
  rw [Outcome.ite_raised_eq_ok, Outcome.ite_raised_eq_ok] at h
  obtain ⟨x, hfs, h⟩ := Outcome.bind_eq_ok.1 h.2.2
  obtain ⟨sc0, st0, s1, sc1, -, h1, -, rfl⟩ := finalistStage_ok hfs
  obtain ⟨res, h3, h⟩ := Outcome.bind_eq_ok.1 h
  cases h
  exact ⟨st0, s1, res, h1, h3, rfl, rfl, rfl⟩

end VK
