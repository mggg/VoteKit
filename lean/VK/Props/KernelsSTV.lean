/-
  The STV kernels regenerated from /repo's current source
  (VK.Model.Generated.STV, written by tools/extract_kernels.py on every check) equal the definitions of the
  hand-written model that the theorems of C02, C03 and C07 are about. A change of one of these expressions or
  comparisons in the source makes the corresponding proof fail at `lake build`.

  Here and in the other `Kernels*` files a proof unfolds the generated definition and then tries `rfl` before
  `ring` / `simp` / casts (`first | rfl | ring | …`, or a `simp` set that normalises comparisons), because the
  left-hand side is generated text: the alternatives after `rfl` absorb harmless rewrites of
  the source (`1 + m` for `m + 1`, operands or comparisons written the other way round), none of them
  closes the goal when a comparison really changes (`>=` for `>`). On the present source the later
  alternatives are never reached, hence Lean's "tactic is never executed" warnings.
-/
import VK.Model.Generated.STV
import VK.Model.STV
import Mathlib.Algebra.Order.Field.Rat
import Mathlib.Tactic.Linarith
import Mathlib.Tactic.Ring
import Mathlib.Tactic.FieldSimp

namespace VK

theorem kernel_threshold_droop (m : Nat) (N : Rat) :
    Generated.thresholdDroop m N = threshold .droop m N := by
  unfold Generated.thresholdDroop threshold
  first
    | rfl
    | (congr 1; ring)

theorem kernel_threshold_hare (m : Nat) (N : Rat) :
    Generated.thresholdHare m N = threshold .hare m N := by
  unfold Generated.thresholdHare threshold
  first
    | rfl
    | (congr 1; ring)

/-- the source's transfer value is the factor the model's fractional transfer applies
(`applyTransfer`, `.fractional`: `b.2 * ((t - q) / t)`) -/
theorem kernel_transfer_value (t : Rat) (q : Int) (ht : t ≠ 0) : Generated.transferValue t q = (t - q) / t := by
  unfold Generated.transferValue
  first
    | rfl
    | ring
    | (field_simp)
    | (field_simp; ring)

/-- the model's fractional transfer really uses that factor -/
theorem kernel_transfer_value_used (cfg : STVCfg) (hop : List Cand) (q : Int) (sample : List (List Cand × Nat))
    (bs : List PBallot) (w : Cand) (hf : cfg.transfer = .fractional) (ht : tally bs hop w ≠ 0) :
    applyTransfer cfg hop q sample bs w =
      .ok (bs.map (fun b => if topOf hop b.1 = some w then (b.1, b.2 * Generated.transferValue (tally bs hop w) q) else b)) := by
  unfold applyTransfer
  simp only [hf, ht, if_false, kernel_transfer_value _ _ ht]

/-- the source's quota test of the simultaneous elect step (`>= self.threshold`) is the model's -/
theorem kernel_quota_simul (score : Rat) (q : Int) :
    Generated.quotaReachedSimul score q = decide ((q : Rat) ≤ score) := by
  unfold Generated.quotaReachedSimul
  first
    | rfl
    | simp only [ge_iff_le]

/-- the model's simultaneous election takes the candidates of the tally order while that test holds
(a group is judged by its first member; the groups of a tally order are non-empty) -/
theorem kernel_quota_simul_used (cfg : STVCfg) (q : Int) (ω : STVOracle) (rnd : Nat) (S : CState) (prev : RoundState)
    (hs : cfg.simultaneous = true) :
    electChoice cfg q ω rnd S prev =
      pure (prev.remaining.takeWhile (fun g =>
        (g.head?.map (fun c => Generated.quotaReachedSimul (lookupScore prev.scores c) q)).getD false), []) := by
  unfold electChoice
  simp only [hs, if_true]
  congr 3
  funext g
  cases g with
  | nil => rfl
  | cons c rest => simp [kernel_quota_simul]

/-- the source's test "somebody reached the threshold this round" is the model's -/
theorem kernel_quota_step (score : Rat) (q : Int) :
    Generated.quotaReachedStep score q = decide ((q : Rat) ≤ score) := by
  unfold Generated.quotaReachedStep
  first
    | rfl
    | simp only [ge_iff_le]

/-- the size `random_transfer` hands to `random.sample` is the number of votes the model's random
transfer keeps in the winner's pile (`applyTransfer`, `.random`: `k = t.floor - q`) -/
theorem kernel_random_sample_size (t : Rat) (q : Int) :
    Generated.randomSampleSize t q = ((t.floor - q : Int) : Rat) := by
  unfold Generated.randomSampleSize
  first
    | rfl
    | push_cast; ring

end VK
