/-
  The two tests of `validate_score_vector`, regenerated from /repo's current source,
  are the ones the model's `validVector` (C04, C20) unfolds to.
-/
import VK.Model.Generated.Vector
import VK.Model.Utils
import Mathlib.Algebra.Order.Field.Rat

namespace VK

theorem kernel_validVector_one (x : Rat) : validVector [x] = !Generated.negEntry x := by
  simp [Generated.negEntry, validVector, ← not_lt]

/-- a vector is accepted exactly when no entry is negative and no entry exceeds the one before it -/
theorem kernel_validVector_step (x y : Rat) (rest : List Rat) :
    validVector (x :: y :: rest) = (!Generated.negEntry x && !Generated.increasing x y && validVector (y :: rest)) := by
  simp [Generated.negEntry, Generated.increasing, validVector, ← not_lt]

end VK
