/-
  Property C09 — round-by-round queries on a finished election are consistent and pure.
  In the model every query is a function of the recorded rounds (`States`), so purity holds by
  construction; on the implementation it is observed by the correspondence check (snapshots after
  every call). Here: the index rules, the cumulative structure of the getters, and the profile
  reported for a round of an STV count.
-/
import VK.Lemmas.Rescore
import VK.Lemmas.RandomTransfer
import VK.Model.Replay

namespace VK

theorem normIndex_eq (len : Nat) (r : Int) :
    normIndex len r =
      if r < -(len : Int) ∨ (len : Int) ≤ r then .raised .indexError else .ok (r % (len : Int)).toNat := by
  unfold normIndex
  simp only [Bool.or_eq_true, decide_eq_true_eq, gt_iff_lt, Int.sub_one_lt_iff]

theorem normIndex_out_of_range {len : Nat} {r : Int} (h : r < -(len : Int) ∨ (len : Int) ≤ r) :
    normIndex len r = .raised .indexError := by
  rw [normIndex_eq, if_pos h]

theorem normIndex_nonneg {len : Nat} {r : Int} (h0 : 0 ≤ r) (h1 : r < len) : normIndex len r = .ok r.toNat := by
  rw [normIndex_eq, if_neg (not_or.2 ⟨not_lt.2 (le_trans (neg_nonpos.2 (Int.natCast_nonneg len)) h0), not_le.2 h1⟩),
    Int.emod_eq_of_lt h0 h1]

theorem normIndex_neg {len : Nat} {r : Int} (h0 : -(len : Int) ≤ r) (h1 : r < 0) :
    normIndex len r = .ok (r + len).toNat := by
  rw [normIndex_eq, if_neg (not_or.2 ⟨not_lt.2 h0, not_le.2 (lt_of_lt_of_le h1 (Int.natCast_nonneg len))⟩),
    ← Int.add_emod_right, Int.emod_eq_of_lt (neg_le_iff_add_nonneg.1 h0) ((add_lt_iff_neg_right _).2 h1)]

/-- Python's rule for `election_states[r]`: exactly the indices in `[-len, len)` are accepted, and a
negative one addresses the same round as its non-negative equivalent. -/
theorem C09_normIndex (len : Nat) (r : Int) :
    (r < -(len : Int) ∨ (len : Int) ≤ r → normIndex len r = .raised .indexError) ∧
    (0 ≤ r → r < len → normIndex len r = .ok r.toNat) ∧
    (-(len : Int) ≤ r → r < 0 → normIndex len r = .ok (r + len).toNat) :=
  ⟨normIndex_out_of_range, normIndex_nonneg, normIndex_neg⟩

/-- **Negative indices address the same rounds as their non-negative equivalents** (every getter of
the recorded rounds; `getProfile` is not among them). -/
theorem C09_negative_index (cands : List Cand) (st : States) (r : Int)
    (h0 : -(st.length : Int) ≤ r) (h1 : r < 0) :
    getElected st r = getElected st (r + st.length) ∧
    getEliminated st r = getEliminated st (r + st.length) ∧
    getRemaining st r = getRemaining st (r + st.length) ∧
    getRanking st r = getRanking st (r + st.length) ∧
    getStatus cands st r = getStatus cands st (r + st.length) := by
  -- the getters see `r` only through these two
  have hn : normIndex st.length r = normIndex st.length (r + st.length) :=
    (normIndex_neg h0 h1).trans (normIndex_nonneg (by omega) (by omega)).symm
  have hp : pyIndex st r = pyIndex st (r + st.length) := by
    have h2 : ¬ r + (st.length : Int) < 0 := by omega
    simp only [pyIndex, h1, h2, if_true, if_false]
  unfold getStatus getRanking getElected getEliminated getRemaining
  rw [hn, hp]
  exact ⟨rfl, rfl, rfl, rfl, rfl⟩

/-- **Out-of-range indices raise IndexError**, in every getter. -/
theorem C09_out_of_range (cands : List Cand) (st : States) (r : Int)
    (h : r < -(st.length : Int) ∨ (st.length : Int) ≤ r) :
    getElected st r = .raised .indexError ∧ getEliminated st r = .raised .indexError ∧
    getRemaining st r = .raised .indexError ∧ getRanking st r = .raised .indexError ∧
    getStatus cands st r = .raised .indexError ∧
    (∀ ps : List Profile, ps.length = st.length → getProfile ps r = .raised .indexError) := by
  have hn := normIndex_out_of_range h
  have hp : pyIndex st r = .raised .indexError := by
    unfold pyIndex
    rcases h with h | h
    · rw [if_pos (by omega)]
    · have h1 : ¬ r < 0 := by omega
      simp only [h1, if_false, List.getElem?_eq_none_iff.2 (show st.length ≤ r.toNat by omega)]
  unfold getStatus getRanking getElected getEliminated getRemaining
  rw [hn, hp]
  exact ⟨rfl, rfl, rfl, rfl, rfl, fun ps hps => by rw [getProfile, hps, hn]; rfl⟩

/-- **Cumulative elected**: the answer for round `k` is the concatenation of the per-round records
up to `k`; consequently it only grows from one round to the next. -/
theorem C09_elected_cumulative (st : States) (k : Nat) (hk : k < st.length) :
    getElected st k = .ok ((st.take (k + 1)).flatMap (·.elected)) ∧
    (∀ s, st[k + 1]? = some s →
      getElected st (k + 1 : Nat) = .ok ((st.take (k + 1)).flatMap (·.elected) ++ s.elected)) := by
  have key : ∀ j : Nat, j < st.length → getElected st j = .ok ((st.take (j + 1)).flatMap (·.elected)) := by
    intro j hj
    rw [getElected, normIndex_nonneg (Int.natCast_nonneg j) (Int.ofNat_lt.2 hj)]
    rfl
  refine ⟨key k hk, fun s hs => ?_⟩
  rw [key (k + 1) (List.getElem?_eq_some_iff.1 hs).1, List.take_add_one, hs, List.flatMap_append]
  simp only [Option.toList_some, List.flatMap_singleton]

/-- **Cumulative eliminated**: most recent round first, each round's groups reversed. -/
theorem C09_eliminated_cumulative (st : States) (k : Nat) (hk : k < st.length) :
    getEliminated st k = .ok ((st.take (k + 1)).reverse.flatMap (fun s => s.eliminated.reverse)) := by
  rw [getEliminated, normIndex_nonneg (Int.natCast_nonneg k) (Int.ofNat_lt.2 hk)]
  rfl

/-- **The ranking is elected ++ remaining ++ eliminated** with empty groups dropped. -/
theorem C09_ranking_is_concat (st : States) (r : Int) (e rem el : Ranking)
    (he : getElected st r = .ok e) (hr : getRemaining st r = .ok rem) (hl : getEliminated st r = .ok el) :
    getRanking st r = .ok ((e ++ rem ++ el).filter (fun s => !s.isEmpty)) := by
  rw [getRanking, he, hr, hl]
  rfl

/-- non-vacuity on a three-round record -/
example :
    let st : States := [{ remaining := [[0], [1], [2]] }, { round := 1, remaining := [[1], [2]], elected := [[0]] },
                        { round := 2, remaining := [[1]], eliminated := [[2]] }]
    getElected st (-1) = .ok [[0]] ∧ getEliminated st 2 = .ok [[2]] ∧ getRanking st (-1) = .ok [[0], [1], [2]] ∧
    getElected st 3 = .raised .indexError ∧ getRemaining st (-4) = .raised .indexError := by decide +kernel

theorem stvStep_nonneg (cfg : STVCfg) (init : Profile) (q : Int) (ω : STVOracle) (rnd : Nat)
    (S S' : CState) (prev r : RoundState) (recs : List RoundState)
    (hT : GoodTransfers cfg) (hq : 0 < q) (inv : StvInv init.cands S prev recs) (hl : Linked S prev)
    (hnn : ∀ b ∈ S.bs, 0 ≤ b.2) (h : stvStep cfg init q ω rnd S prev = .ok (S', r)) :
    ∀ b ∈ S'.bs, 0 ≤ b.2 := by
  rcases stvStep_eq_ok.1 h with ⟨g, tbs, bs', habove, he, ha, rfl, rfl⟩ | ⟨-, -, rfl, rfl⟩ |
    ⟨-, -, lowest, c, tbs, -, -, rfl, rfl⟩
  · exact (hT.elected hq inv hl hnn habove he ha).1
  · intro b hb
    obtain ⟨b0, -, rfl⟩ := List.mem_map.1 hb
    exact le_refl _
  · exact hnn

structure RunInv (cfg : STVCfg) (init : Profile) (S : CState) (prev : RoundState) (recs : List RoundState) : Prop where
  inv : StvInv init.cands S prev recs
  linked : Linked S prev
  nonneg : ∀ b ∈ S.bs, 0 ≤ b.2

theorem RunInv.init (cfg : STVCfg) {p : Profile} (hc : p.cands.Nodup) (hw : ∀ b ∈ p.ballots, 0 < b.weight) :
    RunInv cfg p (stvInitState p) (initialState p.cands (some (tallies (stvInitState p).bs p.cands)))
      [initialState p.cands (some (tallies (stvInitState p).bs p.cands))] :=
  ⟨StvInv.init hc (tallies_keys _ _), Linked.init p, List.forall_mem_map.2 fun b hb => (hw b hb).le⟩

theorem RunInv.step {cfg : STVCfg} {init : Profile} {q : Int} {ω : STVOracle} {rnd : Nat} {S S' : CState}
    {prev r : RoundState} {recs : List RoundState} (hT : GoodTransfers cfg) (hq : 0 < q) (hi : init.cands.Nodup)
    (h : RunInv cfg init S prev recs) (e : stvStep cfg init q ω rnd S prev = .ok (S', r)) :
    RunInv cfg init S' r (r :: recs) :=
  ⟨h.inv.next hi e, stvStep_linked cfg init q ω rnd S S' prev r e,
    stvStep_nonneg cfg init q ω rnd S S' prev r recs hT hq h.inv h.linked h.nonneg e⟩

/-- what `C09_stv_round_profiles` needs of a recorded round and the count state reached after it -/
def RoundOK (x : RoundState × CState) : Prop :=
  x.1.remaining.flatten.Perm x.2.hopeful ∧ Linked x.2 x.1 ∧ ∀ b ∈ x.2.bs, 0 ≤ b.2

theorem stvLoop_rounds_ok (cfg : STVCfg) (init : Profile) (q : Int) (ω : STVOracle)
    (hT : GoodTransfers cfg) (hq : 0 < q) (hi : init.cands.Nodup)
    (fuel : Nat) (S : CState) (prev : RoundState) (acc tr : List (RoundState × CState))
    (hcs : ∀ c ∈ S.hopeful, c ∈ init.cands) (inv : StvInv init.cands S prev (acc.map (·.1)))
    (hl : Linked S prev) (hnn : ∀ b ∈ S.bs, 0 ≤ b.2) (hacc : ∀ x ∈ acc, RoundOK x)
    (h : stvLoop cfg init q ω fuel S prev acc = .ok tr) : ∀ x ∈ tr, RoundOK x := by
  obtain ⟨Sf, prevf, accf, rfl, -, -, hf⟩ := stvLoop_induct
    (fun S prev acc => RunInv cfg init S prev (acc.map (·.1)) ∧ ∀ x ∈ acc, RoundOK x)
    (fun S prev acc S' r ⟨hR, hacc⟩ _ hs =>
      have hR' : RunInv cfg init S' r (((r, S') :: acc).map (·.1)) := hR.step hT hq hi hs
      ⟨hR', List.forall_mem_cons.2 ⟨⟨hR'.inv.rem, hR'.linked, hR'.nonneg⟩, hacc⟩⟩)
    ⟨⟨inv, hl, hnn⟩, hacc⟩ h
  exact fun x hx => hf x (List.mem_reverse.1 hx)

/-- **C09 for STV with the fractional or the random transfer: the profile of every round.** For a
finished count (positive threshold, profile of untied ranked ballots with positive weights) and
every recorded round: the profile reported for that round has exactly the candidates remaining
after it, and re-scoring it (first-place votes) reproduces the tallies recorded for the round.
SequentialRCV's whole-ballot transfer (`.full`) is not covered: `GoodTransfers` is proved for the other two only. -/
theorem C09_stv_round_profiles (cfg : STVCfg) (p : Profile) (ω : STVOracle) (res : STVResult)
    (hf : cfg.transfer = .fractional ∨ cfg.transfer = .random)
    (hq : 0 < threshold cfg.quota cfg.m p.total) (hc : p.cands.Nodup)
    (hw : ∀ b ∈ p.ballots, 0 < b.weight)
    (hne : ∀ b ∈ p.ballots, b.ranking ≠ [])
    (hsingle : ∀ b ∈ p.ballots, ∀ s ∈ b.ranking, s.length = 1)
    (hcast : ∀ b ∈ p.ballots, ∀ c ∈ b.ranking.flatten, c ∈ p.cands)
    (hrun : stvRun cfg p ω = .ok res) :
    ∀ x ∈ res.trace, (currentProfile x.2).cands.Perm x.1.remaining.flatten ∧
      firstPlaceVotes (currentProfile x.2) = .ok x.1.scores := by
  have hT : GoodTransfers cfg := hf.elim (goodTransfers_fractional cfg) (goodTransfers_random cfg)
  obtain ⟨-, -, -, sc0, tr, hs, hloop, rfl⟩ := stvRun_eq_ok.1 hrun
  -- name the initial scores as the tallies of the initial state, the form `RunInv.init` speaks of
  rw [fpv_link p hne hsingle hcast] at hs
  cases hs
  have R0 := RunInv.init cfg hc hw
  intro x hx
  obtain ⟨hperm, hlk, hnn⟩ := stvLoop_rounds_ok cfg p _ ω hT hq hc _ _ _ _ tr (fun _ h => h) R0.inv R0.linked R0.nonneg
    (fun x hx => by cases List.mem_singleton.1 hx; exact ⟨R0.inv.rem, R0.linked, R0.nonneg⟩) hloop x hx
  exact ⟨hperm.symm, by rw [fpv_current x.2 hnn, hlk.1]⟩

end VK
