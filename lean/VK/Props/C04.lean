/-
  Property C04 — positional scores follow the definition exactly.
-/
import VK.Lemmas.Sum
import VK.Lemmas.Outcome
import Mathlib.Tactic.FieldSimp
import Mathlib.Data.List.Nodup

namespace VK

/-- Points handed to the positions of a ranking, counted once per member, add up to the slice of
the vector those positions span — this is where exact division matters. -/
theorem C04_alloc_total (v : List Rat) (r : Ranking) (i : Nat) (h : ∀ s ∈ r, s ≠ []) :
    rsum ((positionAlloc v i r).map (fun sa => (sa.1.length : Rat) * sa.2)) =
      rsum ((v.drop i).take r.flatten.length) := by
  induction r generalizing i with
  | nil => simp [positionAlloc]
  | cons s rest ih =>
    have hlen : (s.length : Rat) ≠ 0 :=
      Nat.cast_ne_zero.2 (List.length_pos_iff.2 (h s List.mem_cons_self)).ne'
    have ih' := ih (i + s.length) (fun t ht => h t (List.mem_cons_of_mem _ ht))
    simp only [positionAlloc, List.map_cons, rsum_cons, List.flatten_cons, List.length_append]
    rw [ih', mul_div_cancel₀ _ hlen]
    rw [List.take_add, rsum_append, List.drop_drop]

theorem positionAlloc_fst (v : List Rat) (r : Ranking) (i : Nat) :
    (positionAlloc v i r).map (·.1) = r := by
  induction r generalizing i with
  | nil => simp [positionAlloc]
  | cons s rest ih => simp [positionAlloc, ih]

theorem positionAlloc_nonneg (v : List Rat) (hv : ∀ x ∈ v, 0 ≤ x) (r : Ranking) (i : Nat) :
    ∀ sa ∈ positionAlloc v i r, 0 ≤ sa.2 := by
  induction r generalizing i with
  | nil => exact fun _ h => nomatch h
  | cons s rest ih =>
    intro sa hsa
    rw [positionAlloc, List.mem_cons] at hsa
    rcases hsa with h | h
    · rw [h]
      exact div_nonneg (rsum_nonneg _ (fun x hx => hv x (List.mem_of_mem_drop (List.mem_of_mem_take hx))))
        (Nat.cast_nonneg _)
    · exact ih _ sa h

theorem ballotPoints_nonneg (v : List Rat) (hv : ∀ x ∈ v, 0 ≤ x) (r : Ranking) (c : Cand) :
    0 ≤ ballotPoints v r c := by
  unfold ballotPoints
  apply rsum_nonneg
  intro x hx
  obtain ⟨sa, hsa, rfl⟩ := List.mem_map.1 hx
  exact positionAlloc_nonneg v hv r 0 sa (List.mem_filter.1 hsa).1

/-- **Each ballot hands out exactly the vector total.** For a ranking without repeated candidates
whose positions are non-empty and drawn from `cands`, the points of all candidates add up to the
sum of the first `#listed` vector entries (for a completed ballot: the first `n` entries). -/
theorem C04_ballot_total (v : List Rat) (r : Ranking) (cands : List Cand)
    (hc : cands.Nodup) (hr : r.flatten.Nodup) (hsub : ∀ c ∈ r.flatten, c ∈ cands)
    (hne : ∀ s ∈ r, s ≠ []) :
    rsum (cands.map (fun c => ballotPoints v r c)) = rsum (v.take r.flatten.length) := by
  have key : rsum (cands.map (fun c => ballotPoints v r c)) =
      rsum ((positionAlloc v 0 r).map (fun sa => (sa.1.length : Rat) * sa.2)) := by
    unfold ballotPoints
    simp only [rsum_filter_map_eq_ite]
    rw [rsum_comm]
    congr 1
    apply List.map_congr_left
    intro sa hsa
    rw [rsum_map_ite_const]
    have hmem : sa.1 ∈ r := by
      have : sa.1 ∈ (positionAlloc v 0 r).map (·.1) := List.mem_map_of_mem hsa
      rwa [positionAlloc_fst] at this
    have hnd : sa.1.Nodup := (List.nodup_flatten.1 hr).1 sa.1 hmem
    have hs : ∀ c ∈ sa.1, c ∈ cands := fun c hcs => hsub c (List.mem_flatten.2 ⟨sa.1, hmem, hcs⟩)
    rw [filter_contains_length cands sa.1 hc hnd hs]
  rw [key, C04_alloc_total v r 0 hne]
  simp

/-- non-vacuity: a completed ballot with a three-way tie and the Borda vector -/
example : rsum ([0, 1, 2, 3].map (fun c => ballotPoints [4, 3, 2, 1] [[3], [0, 1, 2]] c)) = 10 := by
  rw [C04_ballot_total _ _ _ (by decide) (by decide) (by decide) (by decide)]; decide +kernel

/-- **Scores are the weight-summed declarative points.** Whenever `score_profile_from_rankings`
returns, the score of every candidate is the sum over the *original* ballots (not the condensed
ones the code iterates over) of the points the completed ballot gives it, times the weight. -/
theorem C04_score_spec (p : Profile) (v : List Rat) (sc : List (Cand × Rat))
    (h : scoreFromRankings p v = .ok sc) :
    sc = p.cands.map (fun c => (c, rsum (p.ballots.map (fun b =>
      ballotPoints (padVector v p.cands.length) (addMissingBallot p.cands b).ranking c * b.weight)))) := by
  simp only [scoreFromRankings, addMissing, Outcome.ite_raised_eq_ok, Outcome.bind_eq_ok,
    Outcome.pure_eq, Outcome.ok.injEq] at h
  obtain ⟨-, _, ⟨-, rfl⟩, rfl⟩ := h
  refine List.map_congr_left fun c _ => congrArg _ ?_
  have := sum_condense (fun k => ballotPoints (padVector v p.cands.length) k.1 c)
    (p.ballots.map (addMissingBallot p.cands))
  simp only [Ballot.content, List.map_map, Function.comp_def] at this
  simpa [addMissingBallot] using this
