/-
  Property C03 — surplus transfers and STV rounds conserve votes.
-/
import VK.Model.Transfers
import VK.Lemmas.RandomTransfer
import VK.Lemmas.Condense
import Mathlib.Algebra.Order.Field.Basic

namespace VK

theorem removeWinner_flatten (w : Cand) (r : Ranking) :
    (removeWinner w r).flatten = r.flatten.filter (fun c => c != w) := by
  rw [removeWinner, List.flatten_filter_not_isEmpty, List.filter_flatten]

theorem removeWinner_not_mem (w : Cand) (r : Ranking) : w ∉ (removeWinner w r).flatten := by
  rw [removeWinner_flatten]
  exact fun h => by simpa using (List.mem_filter.1 h).2

theorem fractionalTransfer_ok {w : Cand} {fpv : Rat} {bs : List Ballot} {q : Int} {out : List Ballot}
    (h : fractionalTransfer w fpv bs q = .ok out) :
    out = condense ((bs.map (fun b =>
      ({ ranking := removeWinner w b.ranking,
         weight := if ledBy w b then b.weight * ((fpv - q) / fpv) else b.weight, scores := [] } : Ballot))).filter
      (fun b => !b.ranking.isEmpty && decide (0 < b.weight))) := by
  unfold fractionalTransfer at h
  simp only [Outcome.ite_raised_eq_ok, Outcome.ok.injEq] at h
  exact h.2.2.symm

/-- **C03 (order).** Every returned ranking is an input ranking with the winner erased: the other
candidates keep their relative order. -/
theorem C03_order (w : Cand) (fpv : Rat) (bs : List Ballot) (q : Int) (out : List Ballot)
    (h : fractionalTransfer w fpv bs q = .ok out) :
    ∀ b ∈ out, ∃ b0 ∈ bs, b.ranking = removeWinner w b0.ranking ∧
      b.ranking.flatten = b0.ranking.flatten.filter (fun c => c != w) := by
  intro b hb
  rw [fractionalTransfer_ok h] at hb
  obtain ⟨b1, hb1, hr, _⟩ := mem_condense_ranking _ b hb
  obtain ⟨b0, hb0, rfl⟩ := List.mem_map.1 (List.mem_filter.1 hb1).1
  exact ⟨b0, hb0, hr.symm, by rw [← hr, removeWinner_flatten]⟩

/-- **C03 (no winner).** No ballot returned by the fractional rule mentions the winner. -/
theorem C03_no_winner (w : Cand) (fpv : Rat) (bs : List Ballot) (q : Int) (out : List Ballot)
    (h : fractionalTransfer w fpv bs q = .ok out) : ∀ b ∈ out, w ∉ b.ranking.flatten := by
  intro b hb
  obtain ⟨b0, _, hr, _⟩ := C03_order w fpv bs q out h b hb
  rw [hr]
  exact removeWinner_not_mem w _

/-- the transfer value lies in `[0, 1)` whenever `0 < q ≤ t` -/
theorem C03_transfer_value_bounds (t q : Rat) (hq : 0 < q) (hqt : q ≤ t) :
    0 ≤ (t - q) / t ∧ (t - q) / t < 1 := by
  have ht : 0 < t := lt_of_lt_of_le hq hqt
  exact ⟨div_nonneg (sub_nonneg.2 hqt) ht.le, (div_lt_one ht).2 (sub_lt_self t hq)⟩

/-- a ballot of weight `w ≤ t` led by the winner loses at most `q` -/
theorem C03_loss_le_quota (w t q : Rat) (ht : 0 < t) (hw : w ≤ t) (hq : 0 ≤ q) :
    w - q ≤ w * ((t - q) / t) :=
  C07_fractional_keeps_quota w t q ht hw hq

/-- **C03 (fractional weight).** For every continuing ranking `k`, the output carries exactly
`(t-q)/t` times the weight of the winner-led input ballots that map to `k` plus the full weight of
the other input ballots that map to `k` — provided those weights are positive so that nothing is
dropped as a zero-weight ballot. -/
theorem C03_frac_weight (w : Cand) (fpv : Rat) (bs : List Ballot) (q : Int) (out : List Ballot)
    (h : fractionalTransfer w fpv bs q = .ok out) (k : Ranking) (hk : k ≠ [])
    (hpos : ∀ b ∈ bs, 0 < (if ledBy w b then b.weight * ((fpv - q) / fpv) else b.weight)) :
    wt out (k, []) =
      rsum ((bs.filter (fun b => removeWinner w b.ranking = k)).map
        (fun b => if ledBy w b then b.weight * ((fpv - q) / fpv) else b.weight)) := by
  rw [fractionalTransfer_ok h, wt_condense, wt, List.filter_filter, List.filter_map, List.map_map]
  refine congrArg (fun l => rsum (List.map _ l)) (List.filter_congr fun b hb => ?_)
  -- a ballot that maps to `k` is kept: `k` is not empty and the new weight is positive
  by_cases hr : removeWinner w b.ranking = k
  · simp only [Function.comp_apply, Ballot.content, hr, hpos b hb, decide_true, Bool.true_and,
      List.isEmpty_eq_false_iff.2 hk, Bool.not_false]
  · simp only [Function.comp_apply, Ballot.content, Prod.mk.injEq, hr, false_and, decide_false, Bool.false_and]

/-- non-vacuity: A>B weight 3 and A>B weight 1 with tally 4, quota 2: B receives 4·(2/4) = 2 -/
example : fractionalTransfer 0 4 [{ ranking := [[0], [1]], weight := 3 }, { ranking := [[0], [1]], weight := 1 }] 2
    = .ok [{ ranking := [[1]], weight := 2 }] := by decide +kernel

/-! ### round accounting of the STV count (pointwise state = the profile the code holds) -/

/-- the tallies recorded for a round add up to the active weight: every ballot that still ranks a
hopeful candidate is counted for exactly one of them -/
theorem tallies_sum_active (bs : List PBallot) (hop : List Cand) (hn : hop.Nodup) :
    rsum ((tallies bs hop).map (·.2)) = active bs hop := by
  rw [tallies, List.map_map]
  refine (sum_tally_subset bs hop hop hn).trans (congrArg (wsum · bs) (funext fun b => ?_))
  -- the top choice of a ballot is a hopeful candidate
  cases htop : topOf hop b.1 with
  | none => simp only [isActive, htop]; rfl
  | some c => simpa [isActive, htop] using List.find?_some htop

theorem active_filter_add_exhausted (bs : List PBallot) (hop : List Cand) (p : Cand → Bool) :
    active bs (hop.filter p) + exhausted bs hop (hop.filter p) = active bs hop :=
  (active_shrink bs hop _ (fun _ hc => (List.mem_filter.1 hc).1)).symm

/-- **Round accounting (fractional rule).** In every step of the count either the remaining
candidates fill the remaining seats (the profile becomes empty), or the total weight of the next
profile plus the weight of the ballots left with no surviving choice equals the previous total
minus one threshold for each candidate elected in the round — nothing else is lost or created.
An elimination round (no one elected) consumes nothing. -/
theorem C03_step_accounting (cfg : STVCfg) (init : Profile) (q : Int) (ω : STVOracle) (rnd : Nat)
    (S S' : CState) (prev r : RoundState) (hf : cfg.transfer = .fractional)
    (h : stvStep cfg init q ω rnd S prev = .ok (S', r)) :
    (S'.hopeful = [] ∧ r.remaining = [] ∧ r.scores = [] ∧ r.elected = prev.remaining) ∨
    (active S'.bs S'.hopeful + exhausted S'.bs S.hopeful S'.hopeful =
        active S.bs S.hopeful - (q : Rat) * (r.elected.flatten.length : Rat) ∧
      r.scores = tallies S'.bs S'.hopeful ∧ (r.elected = [] ∨ r.eliminated = [])) := by
  rcases stvStep_eq_ok.1 h with ⟨g, tbs, bs', -, -, ha, rfl, rfl⟩ | ⟨-, -, rfl, rfl⟩ |
    ⟨-, -, lowest, c, tbs, -, -, rfl, rfl⟩
  · refine Or.inr ⟨?_, rfl, Or.inr rfl⟩
    rw [active_filter_add_exhausted, applyTransfers_fractional_active cfg S.hopeful q _ g.flatten S.bs bs' hf ha]
  · exact Or.inl ⟨rfl, rfl, rfl, rfl⟩
  · refine Or.inr ⟨?_, rfl, Or.inl rfl⟩
    rw [active_filter_add_exhausted, List.flatten_nil, List.length_nil, Nat.cast_zero, mul_zero, sub_zero]

/-- **The total never increases** (fractional rule, non-negative threshold, non-negative weights
after the step): from one round to the next the profile's total weight can only drop. -/
theorem C03_total_nonincreasing (cfg : STVCfg) (init : Profile) (q : Int) (ω : STVOracle) (rnd : Nat)
    (S S' : CState) (prev r : RoundState) (hf : cfg.transfer = .fractional) (hq : 0 ≤ q)
    (hS : ∀ b ∈ S.bs, 0 ≤ b.2) (hS' : ∀ b ∈ S'.bs, 0 ≤ b.2)
    (h : stvStep cfg init q ω rnd S prev = .ok (S', r)) :
    active S'.bs S'.hopeful ≤ active S.bs S.hopeful := by
  rcases C03_step_accounting cfg init q ω rnd S S' prev r hf h with ⟨h1, _⟩ | ⟨h1, _⟩
  · -- nobody is hopeful any more: no ballot is active
    have h0 : active S'.bs [] = 0 := by
      rw [active, wsum, List.filter_eq_nil_iff.2 (fun b _ => by simp [isActive, topOf])]; rfl
    rw [h1, h0]
    exact wsum_nonneg _ _ hS
  · calc active S'.bs S'.hopeful
        ≤ active S'.bs S'.hopeful + exhausted S'.bs S.hopeful S'.hopeful :=
          le_add_of_nonneg_right (wsum_nonneg _ _ hS')
      _ = active S.bs S.hopeful - (q : Rat) * (r.elected.flatten.length : Rat) := h1
      _ ≤ active S.bs S.hopeful := sub_le_self _ (mul_nonneg (Int.cast_nonneg hq) (Nat.cast_nonneg _))

/-- SequentialRCV (full-weight transfer): a surplus transfer changes no ballot weight at all -/
theorem C03_full_transfer_keeps_weights (cfg : STVCfg) (hopeful : List Cand) (q : Int)
    (sample : List (List Cand × Nat)) (bs bs' : List PBallot) (w : Cand) (hf : cfg.transfer = .full)
    (h : applyTransfer cfg hopeful q sample bs w = .ok bs') : bs' = bs :=
  applyTransfer_full cfg hopeful q sample bs bs' w hf h

/-- **One random transfer, for every sample the oracle may report.** Ballots not counted for the
winner are untouched, no ballot gains weight, weights stay non-negative, and the winner's pile
keeps exactly `tally − threshold` (whole) votes; ballots that still rank a hopeful candidate lose at
most one threshold in total. -/
theorem C03_random_transfer (cfg : STVCfg) (hop : List Cand) (q : Int) (sample : List (List Cand × Nat))
    (bs bs' : List PBallot) (w : Cand) (hf : cfg.transfer = .random) (hnn : ∀ b ∈ bs, 0 ≤ b.2)
    (h : applyTransfer cfg hop q sample bs w = .ok bs') : RandomFacts hop q w bs bs' :=
  applyTransfer_random_facts cfg hop q sample bs bs' w hf hnn h

/-- Round accounting for every transfer rule that meets `GoodTransfers`: in an election round the next
total plus the exhausted weight is the previous total minus one threshold per elected candidate, and
the weights stay non-negative. -/
theorem stvStep_accounting {cfg : STVCfg} {init : Profile} {q : Int} {ω : STVOracle} {rnd : Nat}
    {S S' : CState} {prev r : RoundState} {recs : List RoundState} (hT : GoodTransfers cfg) (hq : 0 < q)
    (inv : StvInv init.cands S prev recs) (hl : Linked S prev) (hnn : ∀ b ∈ S.bs, 0 ≤ b.2)
    (h : stvStep cfg init q ω rnd S prev = .ok (S', r)) :
    (S'.hopeful = [] ∧ r.remaining = [] ∧ r.elected = prev.remaining) ∨
    (active S'.bs S'.hopeful + exhausted S'.bs S.hopeful S'.hopeful =
        active S.bs S.hopeful - (q : Rat) * (r.elected.flatten.length : Rat) ∧ (∀ b ∈ S'.bs, 0 ≤ b.2)) := by
  rcases stvStep_eq_ok.1 h with ⟨g, tbs, bs', habove, he, ha, rfl, rfl⟩ | ⟨-, -, rfl, rfl⟩ |
    ⟨-, -, lowest, c, tbs, -, -, rfl, rfl⟩
  · obtain ⟨hnn', hact⟩ := hT.elected hq inv hl hnn habove he ha
    refine Or.inr ⟨?_, hnn'⟩
    rw [active_filter_add_exhausted, hact]
  · exact Or.inl ⟨rfl, rfl, rfl⟩
  · refine Or.inr ⟨?_, hnn⟩
    rw [active_filter_add_exhausted, List.flatten_nil, List.length_nil, Nat.cast_zero, mul_zero, sub_zero]

/-- **Round accounting for either built-in transfer rule.** -/
theorem C03_step_accounting_both (cfg : STVCfg) (init : Profile) (q : Int) (ω : STVOracle) (rnd : Nat)
    (S S' : CState) (prev r : RoundState) (recs : List RoundState)
    (hf : cfg.transfer = .fractional ∨ cfg.transfer = .random) (hq : 0 < q)
    (hi : init.cands.Nodup) (hcs : ∀ c ∈ S.hopeful, c ∈ init.cands)
    (inv : StvInv init.cands S prev recs) (hl : Linked S prev) (hnn : ∀ b ∈ S.bs, 0 ≤ b.2)
    (h : stvStep cfg init q ω rnd S prev = .ok (S', r)) :
    (S'.hopeful = [] ∧ r.remaining = [] ∧ r.elected = prev.remaining) ∨
    (active S'.bs S'.hopeful + exhausted S'.bs S.hopeful S'.hopeful =
        active S.bs S.hopeful - (q : Rat) * (r.elected.flatten.length : Rat) ∧ (∀ b ∈ S'.bs, 0 ≤ b.2)) :=
  stvStep_accounting (hf.elim (goodTransfers_fractional cfg) (goodTransfers_random cfg)) hq inv hl hnn h

end VK
