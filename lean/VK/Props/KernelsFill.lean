/-
  `ballot_fill`'s share of one completion, regenerated from /repo's current source, is
  the weight the model's enumeration mirror `fillBallot` (C06_fill_correct) gives it.
-/
import VK.Model.Generated.Fill
import VK.Model.Pairwise

namespace VK

theorem kernel_fill_share_used (cands : List Cand) (bl : Ballot) :
    fillBallot cands bl =
      (if bl.ranking.length < cands.length then
        (perms (cands.filter (fun c => !bl.ranking.flatten.contains c))).map (fun o =>
          (bl.ranking.flatten ++ o,
           Generated.fillShare bl.weight (perms (cands.filter (fun c => !bl.ranking.flatten.contains c))).length))
       else [(bl.ranking.flatten, bl.weight)]) := by
  unfold fillBallot Generated.fillShare
  rfl

end VK
