/-
  C08, ballot representation for RandomDictator and BoostedRandomDictator: with the same draws (the drawn ballot is
  named by its ranking, so the same draw makes sense for every representation), equivalent representations give the
  same rounds.
-/
import VK.Props.C08Rep
namespace VK

theorem dictatorPick_rep (cands : List Cand) (a b : List Ballot) (h : RepEq a b) (pick : Ranking) (pri : List Cand) :
    dictatorPick { ballots := a, cands := cands } pick pri = dictatorPick { ballots := b, cands := cands } pick pri := by
  unfold dictatorPick
  -- all weights are positive, so the weight test on the drawn ballot says nothing
  rw [isEmpty_rep a b h, any_and_pos h.pos, any_and_pos h.pos',
    show a.any (fun x => decide (x.ranking = pick)) = b.any (fun x => decide (x.ranking = pick)) from
      any_of_same h.same (fun k => decide (k.1 = pick))]

theorem rdLoop_rep (m : Nat) (ω : RDOracle) (fuel : Nat) (cands : List Cand) (a b : List Ballot) (h : RepEq a b)
    (n rnd : Nat) (acc : List RoundState) :
    rdLoop m ω fuel { ballots := a, cands := cands } n rnd acc = rdLoop m ω fuel { ballots := b, cands := cands } n rnd acc := by
  induction fuel generalizing cands a b n rnd acc with
  | zero => rfl
  | succ k ih =>
    unfold rdLoop
    rw [dictatorPick_rep cands a b h]
    refine congrArg _ (Outcome.bind_congr fun x => ?_)
    simp only [scoreRep_fpv.removeCand h]
    exact Outcome.bind_congr fun sc => ih _ _ _ (h.removeCand [x.1]) _ _ _

theorem C08_random_dictator_rep (cands : List Cand) (a b : List Ballot) (h : RepEq a b) (m : Int) (ω : RDOracle) :
    randomDictatorRun { ballots := a, cands := cands } m ω = randomDictatorRun { ballots := b, cands := cands } m ω := by
  unfold randomDictatorRun
  rw [rankingValid_rep cands a b h, scoreRep_fpv cands a b h]
  simp only [rdLoop_rep _ ω _ cands a b h]

theorem boostedPick_rep (cands : List Cand) (a b : List Ballot) (h : RepEq a b) (scores : List (Cand × Rat))
    (ω : RDOracle) (rnd : Nat) :
    boostedPick { ballots := a, cands := cands } scores ω rnd = boostedPick { ballots := b, cands := cands } scores ω rnd := by
  unfold boostedPick
  simp only [dictatorPick_rep cands a b h]

theorem brdLoop_rep (m : Nat) (ω : RDOracle) (fuel : Nat) (cands : List Cand) (a b : List Ballot) (h : RepEq a b)
    (scores : List (Cand × Rat)) (n rnd : Nat) (acc : List RoundState) :
    brdLoop m ω fuel { ballots := a, cands := cands } scores n rnd acc =
      brdLoop m ω fuel { ballots := b, cands := cands } scores n rnd acc := by
  induction fuel generalizing cands a b scores n rnd acc with
  | zero => rfl
  | succ k ih =>
    unfold brdLoop
    rw [boostedPick_rep cands a b h]
    refine congrArg _ (Outcome.bind_congr fun x => ?_)
    simp only [scoreRep_fpv.removeCand h]
    exact Outcome.bind_congr fun sc => ih _ _ _ (h.removeCand [x.1]) _ _ _ _

theorem C08_boosted_rep (cands : List Cand) (a b : List Ballot) (h : RepEq a b) (m : Int) (ω : RDOracle) :
    boostedRun { ballots := a, cands := cands } m ω = boostedRun { ballots := b, cands := cands } m ω := by
  unfold boostedRun
  rw [rankingValid_rep cands a b h, scoreRep_fpv cands a b h]
  simp only [brdLoop_rep _ ω _ cands a b h]

end VK
