/-
  C08, neutrality of the pairwise layer (margins, the beats-or-ties graph, reach sets, dominating tiers, Condorcet
  winner) and of the two rules built on it (DominatingSets, CondoBorda).
-/
import VK.Props.C08
import VK.Props.C08NeutralRules
namespace VK

section
variable (π : Cand → Cand) (hπ : Function.Injective π)
include hπ

theorem margin_ren (p : Profile) (a b : Cand) : margin (renP π p) (π a) (π b) = margin p a b :=
  margin_map π hπ (renB π) (fun _ => rfl) (fun _ => rfl) p.ballots p.cands _ a b

theorem edge_ren (p : Profile) (a b : Cand) : edge (renP π p) (π a) (π b) = edge p a b := by
  unfold edge; rw [margin_ren π hπ, bne_map_inj π hπ]

omit hπ in
theorem graphCands_ren (p : Profile) : graphCands (renP π p) = (graphCands p).map π := by
  unfold graphCands
  rw [renP_ballots, renP_cands, List.isEmpty_map, apply_ite (List.map π)]
  rfl

theorem expand_ren (cands : List Cand) (E E' : Cand → Cand → Bool) (hE : ∀ a b, E' (π a) (π b) = E a b)
    (seen : List Cand) : expand (cands.map π) E' (seen.map π) = (expand cands E seen).map π :=
  filter_map_of π (fun b => by simp only [contains_map_inj π hπ, List.any_map, Function.comp_def, hE]) cands

theorem iter_expand_ren (cands : List Cand) (E E' : Cand → Cand → Bool) (hE : ∀ a b, E' (π a) (π b) = E a b)
    (n : Nat) (seen : List Cand) :
    iter (expand (cands.map π) E') n (seen.map π) = (iter (expand cands E) n seen).map π := by
  induction n generalizing seen with
  | zero => rfl
  | succ k ih => rw [iter, iter, expand_ren π hπ cands E E' hE, ih]

theorem reach_ren (cands : List Cand) (E E' : Cand → Cand → Bool) (hE : ∀ a b, E' (π a) (π b) = E a b) (a : Cand) :
    reach (cands.map π) E' (π a) = (reach cands E a).map π := by
  unfold reach
  rw [List.length_map, filter_eq_map π hπ]
  exact iter_expand_ren π hπ cands E E' hE _ _

theorem tiersOf_ren (cands : List Cand) (E E' : Cand → Cand → Bool) (hE : ∀ a b, E' (π a) (π b) = E a b) :
    tiersOf (cands.map π) E' = renR π (tiersOf cands E) := by
  unfold tiersOf
  rw [← scoreToRanking_ren]
  simp only [renSc, List.map_map, Function.comp_def, reachCount, reach_ren π hπ cands E E' hE, List.length_map]

theorem C08_tiers_neutral (p : Profile) : dominatingTiers (renP π p) = renR π (dominatingTiers p) := by
  unfold dominatingTiers
  rw [graphCands_ren]
  exact tiersOf_ren π hπ _ (edge p) (edge (renP π p)) (edge_ren π hπ p)

theorem C08_condorcet_neutral (p : Profile) : condorcetWinner (renP π p) = (condorcetWinner p).map π := by
  unfold condorcetWinner
  rw [C08_tiers_neutral π hπ]
  obtain _ | ⟨_ | ⟨c, _ | _⟩, rest⟩ := dominatingTiers p <;> rfl

theorem C08_domsets_neutral (p : Profile) : dominatingSetsRun (renP π p) = (dominatingSetsRun p).map (renStates π) := by
  unfold dominatingSetsRun
  rw [rankingValid_ren, C08_tiers_neutral π hπ]
  refine Outcome.ite_map rfl ?_
  cases dominatingTiers p with
  | nil => rfl
  | cons t rest =>
    simp only [Outcome.map_ok, renStates, List.map_cons, List.map_nil, initialState, renP_cands, renRS, renR,
      renSc, List.isEmpty_map, apply_ite (List.map (List.map π))]

theorem C08_condoborda_neutral (p : Profile) (m : Nat) (pri : List Cand) :
    condoBordaRun (renP π p) m (pri.map π) = (condoBordaRun p m pri).map (renStates π) := by
  rw [condoBordaRun_eq, condoBordaRun_eq, rankingValid_ren, C08_tiers_neutral π hπ]
  refine Outcome.ite_map rfl (Outcome.bind_map_comm _ (bordaScores_ren π hπ p) fun sc0 _ => ?_)
  rw [renP_cands, initialState_ren]
  exact electRound_ren π hπ p m (some .borda) pri bordaScores (bordaScores_ren π hπ) _ _

end
end VK
