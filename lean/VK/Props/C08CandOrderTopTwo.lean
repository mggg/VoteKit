/-
  C08, "listing the candidates in a different order", TopTwo: the finalists' stage and the runoff are both
  single-round counts, so the re-listing theorem for Plurality applies twice. The runoff lists the finalists in the
  order of the filtered `c'`; since its rounds mention finalists only (`pluralityRun_mentions`), re-listing them in
  that order and in the order of `c'` agree (`reRS_restrict`).
-/
import VK.Props.C08CandOrder
import VK.Props.C09Single
import VK.Props.C13
namespace VK

/-- the finalists' profile has its candidates listed in the order of the filtered `c'` -/
def reStageC (c' : List Cand) (x : RoundState × RoundState × Profile) : RoundState × RoundState × Profile :=
  (reRS c' x.1, reRS c' x.2.1, withCands x.2.2 (c'.filter (fun c => !x.2.1.eliminated.flatten.contains c)))

theorem finalistStage_re (p : Profile) (c' : List Cand) (hperm : c'.Perm p.cands) (hN : p.cands.Nodup)
    (k : Nat) (tb : Option TB) (pri : List Cand) :
    finalistStage (withCands p c') k tb pri = (finalistStage p k tb pri).map (reStageC c') := by
  have hp := goodGroup_of_perm hperm hN
  refine Outcome.bind_map_comm _ (firstPlaceVotes_re p c' hperm) fun sc0 hsc0 => ?_
  refine Outcome.bind_map_comm _ (C08_plurality_cand_order p c' hperm hN k tb pri) fun pl hpl => ?_
  -- the Plurality count returns two rounds, and what remains after the second is declared
  obtain ⟨s0, s1, rfl, -, -, -, -, hrem⟩ := C09_plurality_round_profiles p k tb pri hN pl hpl
  have hremsub : ∀ g ∈ s1.remaining, SubOf c' g := fun g hg x hx =>
    hp.2 x (List.mem_filter.mp (hrem.subset (List.mem_flatten.mpr ⟨g, hg, hx⟩))).1
  show firstPlaceVotes (removeCand (reRS c' s1).remaining.flatten (withCands p c')) >>= _ = _
  rw [removeCand_re p c' s1.remaining.flatten (reRS c' s1).remaining.flatten
    (flatten_reR_mem c' s1.remaining hremsub) true false]
  refine Outcome.bind_map_comm _ (firstPlaceVotes_re _ _ (hperm.filter _)) fun sc1 hsc1 => ?_
  have hk1 : sc1.map (·.1) = p.cands.filter _ := scoreFromRankings_keys _ _ sc1 hsc1
  -- the model re-lists `sc1` in the order of the filtered `c'`, `reStageC` in the order of `c'`
  rw [reSc_restrict c' _ sc1 (by rw [hk1]; exact fun x hx => (List.mem_filter.mp hx).2),
    initialState_re c' p.cands _ sc0 (scoreFromRankings_keys p _ sc0 hsc0 ▸ hp)]
  rfl

theorem finalistStage_cands {p : Profile} {k : Nat} {tb : Option TB} {pri : List Cand}
    {x : RoundState × RoundState × Profile} (h : finalistStage p k tb pri = .ok x) :
    x.2.2.cands = p.cands.filter (fun c => !x.2.1.eliminated.flatten.contains c) := by
  obtain ⟨_, _, _, _, -, -, -, rfl⟩ := finalistStage_ok h
  rfl

/-- the second stage of TopTwo and Alaska runs on the finalists' profile, with the finalists listed in the order of
`c'`; a state that mentions finalists only is re-listed in that order as in the order of `c'` -/
theorem finalists_re {p : Profile} {c' : List Cand} (hperm : c'.Perm p.cands) (hN : p.cands.Nodup) {k : Nat}
    {tb : Option TB} {pri : List Cand} {x : RoundState × RoundState × Profile}
    (h : finalistStage p k tb pri = .ok x) :
    (c'.filter (fun c => !x.2.1.eliminated.flatten.contains c)).Perm x.2.2.cands ∧ x.2.2.cands.Nodup ∧
      ∀ s, (∀ y ∈ stateCands s, y ∈ x.2.2.cands) →
        reRS (c'.filter (fun c => !x.2.1.eliminated.flatten.contains c)) s = reRS c' s := by
  rw [finalistStage_cands h]
  exact ⟨hperm.filter _, hN.filter _, fun s hs => reRS_restrict c' _ s fun y hy => (List.mem_filter.mp (hs y hy)).2⟩

theorem C08_toptwo_cand_order (p : Profile) (c' : List Cand) (hperm : c'.Perm p.cands) (hN : p.cands.Nodup)
    (tb : Option TB) (pri : Nat → List Cand) :
    topTwoRun (withCands p c') tb pri = (topTwoRun p tb pri).map (reStates c') := by
  unfold topTwoRun
  refine Outcome.ite_map rfl ?_
  refine Outcome.bind_map_comm _ (finalistStage_re p c' hperm hN 2 tb (pri 1)) fun x hfs => ?_
  obtain ⟨hperm2, hN2, hre⟩ := finalists_re hperm hN hfs
  refine Outcome.bind_map_comm _ (C08_plurality_cand_order x.2.2 _ hperm2 hN2 1 tb (pri 2)) fun pl hpl => ?_
  obtain ⟨t0, s, rfl, -⟩ := C09_plurality_round_profiles x.2.2 1 tb (pri 2) hN2 pl hpl
  show Outcome.ok [reRS c' x.1, reRS c' x.2.1, { reRS _ s with round := 2 }] = _
  rw [hre s (pluralityRun_mentions x.2.2 1 tb (pri 2) hN2 _ hpl s (by simp))]
  rfl

end VK
