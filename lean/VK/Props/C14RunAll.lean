/-
  C14, end to end, for the remaining bloc generators of the model (`Gen.runBT`, `runBTmcmc`, `runAC`, `runCambridge`,
  `runSlatePL`, `runSlateBT`) and the simplex kinds: whatever log the replay accepts, the pool has exactly `N` unit
  ballots — so (by `run_ok`) the profile `Gen.run` returns has total weight `N`, positive whole weights, and its
  total is the sum of the totals of the bloc profiles.
-/
import VK.Props.C14Run

namespace VK
namespace Gen

def UnitPool (cnt : Nat) (o : List Ballot) : Prop := o.length = cnt ∧ ∀ b ∈ o, b.weight = 1

theorem expectChoiceIdx_spec (n : Nat) (p : Option (List Rat)) (size : Nat) (what : String) :
    Ensures (expectChoiceIdx n p size what) (fun res => res.length = size) := by
  unfold expectChoiceIdx
  refine ensures_bind_any fun c => ?_
  split
  · refine ensures_guard fun _ => ensures_guard fun _ => ensures_guard fun h3 => ?_
    simp only [Bool.or_eq_true, decide_eq_true_eq, not_or, Decidable.not_not] at h3
    split
    · exact ensures_pure h3.1
    · exact ensures_guard fun _ => ensures_guard fun _ => ensures_pure h3.1
    · exact ensures_bad
  · exact ensures_bad

theorem drawn_pool {cnt : Nat} {idx : List Nat} (hidx : idx.length = cnt) (table : List (List Cand)) (zeros : List Cand) :
    Ensures (idx.mapM fun i => match table[i]? with
      | some r => pure (plBallot r zeros)
      | none => (bad "index" : GenM Ballot)) (UnitPool cnt) :=
  ensures_mapM hidx fun i _ => by
    split
    · exact ensures_pure rfl
    · exact ensures_bad

/-- name Bradley–Terry, exact table -/
theorem C14_runBT (P : Params) (hnb : P.nb = P.props.length) :
    Ensures (runBT P) (fun bb => bb.flatten.length = P.N ∧ ∀ b ∈ bb.flatten, b.weight = 1) := by
  unfold runBT
  refine apportioned_spec hnb fun b cnt => ensures_bind_any fun iv => ensures_guard fun _ => ?_
  exact ensures_bind (expectChoiceIdx_spec _ _ cnt _) fun idx hidx => drawn_pool hidx _ _

theorem btmcmc_loop_spec (b : Nat) (iv : Interval) :
    ∀ (l : List (List Nat)) (cur : List Cand) (i : Nat), Ensures (runBTmcmc.loop b iv cur l i) (UnitPool l.length)
  | [], _, _ => by unfold runBTmcmc.loop; exact ensures_pure ⟨rfl, nofun⟩
  | [j] :: rest, cur, i => by
    unfold runBTmcmc.loop
    refine ensures_bind_any fun u => ?_
    split
    · exact ensures_bind (btmcmc_loop_spec b iv rest _ _) fun tl htl =>
        ensures_pure ⟨congrArg (· + 1) htl.1, List.forall_mem_cons.2 ⟨rfl, htl.2⟩⟩
    · exact ensures_bad
  | [] :: _, _, _ => by unfold runBTmcmc.loop; exact ensures_bad
  | (_ :: _ :: _) :: _, _, _ => by unfold runBTmcmc.loop; exact ensures_bad

/-- name Bradley–Terry, MCMC -/
theorem C14_runBTmcmc (P : Params) (hnb : P.nb = P.props.length) :
    Ensures (runBTmcmc P) (fun bb => bb.flatten.length = P.N ∧ ∀ b ∈ bb.flatten, b.weight = 1) := by
  unfold runBTmcmc
  refine apportioned_spec hnb fun b cnt => ensures_bind_any fun iv => ensures_guard fun _ => ?_
  refine ensures_bind_any fun c => ?_
  split
  · refine ensures_guard fun h => ?_
    simp only [Bool.or_eq_true, decide_eq_true_eq, not_or, Decidable.not_not] at h
    exact h.2 ▸ btmcmc_loop_spec b iv _ _ 0
  · exact ensures_bad

theorem fillBallot_spec (P : Params) (b : Nat) (ivs : List Interval) (zeros : List Cand) (ty : List Nat) (what : String) :
    Ensures (fillBallot P b ivs zeros ty what) (fun x => x.weight = 1) := by
  unfold fillBallot
  refine ensures_bind_any fun orders => ?_
  split
  · exact ensures_pure rfl
  · exact ensures_bad

theorem fill_all (P : Params) (b cnt : Nat) (ivs : List Interval) (zeros : List Cand) (types : List (List Nat)) (what : String)
    (h : types.length = cnt) :
    Ensures (types.mapM (fun ty => fillBallot P b ivs zeros ty what)) (UnitPool cnt) :=
  ensures_mapM h fun ty _ => fillBallot_spec P b ivs zeros ty what

theorem sampleTypes_spec (sizes slates : List Nat) (values : List Rat) (per : Nat) (cnt : Nat) :
    ∀ flips, Ensures (sampleTypes sizes slates values per cnt flips) (fun tys => tys.length = cnt) := by
  induction cnt with
  | zero => intro flips; unfold sampleTypes; exact ensures_pure rfl
  | succ n ih =>
    intro flips
    unfold sampleTypes
    exact ensures_bind_any fun ty => ensures_bind (ih _) fun rest hr => ensures_pure (congrArg (· + 1) hr)

/-- slate Plackett–Luce -/
theorem C14_runSlatePL (P : Params) (hnb : P.nb = P.props.length) :
    Ensures (runSlatePL P) (fun bb => bb.flatten.length = P.N ∧ ∀ b ∈ bb.flatten, b.weight = 1) := by
  unfold runSlatePL
  refine apportioned_spec hnb fun b cnt => ensures_bind_any fun ivs => ensures_bind_any fun flips => ?_
  exact ensures_bind (sampleTypes_spec _ _ _ _ cnt flips) fun types ht => fill_all P b cnt ivs _ types _ ht

theorem slatebt_loop_spec (b : Nat) (c : Rat) (l : List Nat) :
    ∀ (cur : List Nat) (i : Nat), Ensures (runSlateBT.loop b c cur l i) (fun tys => tys.length = l.length) := by
  induction l with
  | nil => intro cur i; unfold runSlateBT.loop; exact ensures_pure rfl
  | cons j rest ih =>
    intro cur i
    unfold runSlateBT.loop
    refine ensures_bind_any fun u => ?_
    split
    · exact ensures_bind (ih _ _) fun tl htl => ensures_pure (congrArg (· + 1) htl)
    · exact ensures_bad

/-- slate Bradley–Terry, exact table or MCMC -/
theorem C14_runSlateBT (P : Params) (mcmc : Bool) (hnb : P.nb = P.props.length) :
    Ensures (runSlateBT P mcmc) (fun bb => bb.flatten.length = P.N ∧ ∀ b ∈ bb.flatten, b.weight = 1) := by
  unfold runSlateBT
  refine apportioned_spec hnb fun b cnt => ensures_bind_any fun ivs => ?_
  extract_lets zeros sizes c fill
  have hfill : ∀ types : List (List Nat), types.length = cnt → Ensures (fill types) (UnitPool cnt) :=
    fun types ht => fill_all P b cnt ivs _ types _ ht
  refine ensures_ite (fun _ => ?_) (fun _ => ensures_ite (fun _ => ensures_bad_bind) (fun _ => ?_))
  · refine ensures_bind (expectChoiceIdx_spec _ _ cnt _) fun js hjs => ?_
    exact ensures_bind (hjs ▸ slatebt_loop_spec b _ js _ 0) hfill
  · refine ensures_bind (expectChoiceIdx_spec _ _ cnt _) fun idx hidx => ?_
    exact ensures_bind ((ensures_mapM hidx fun _ _ => ensures_any).weaken fun _ h => h.1) hfill

theorem sum_by_pairs : ∀ (nb : Nat) (counts : List Nat), counts.length = 2 * nb →
    ((List.range nb).map fun b => (counts[2 * b]?).getD 0 + (counts[2 * b + 1]?).getD 0).sum = counts.sum
  | 0, counts, h => by rw [List.length_eq_zero_iff.1 h]; rfl
  | n + 1, [], h => by cases h
  | n + 1, [_], h => by cases h
  | n + 1, a :: b :: rest, h => by
    rw [List.range_succ_eq_map, List.map_cons, List.map_map, List.sum_cons, List.sum_cons, List.sum_cons,
      ← sum_by_pairs n rest (Nat.succ.inj (Nat.succ.inj h)), ← Nat.add_assoc]
    rfl

theorem crossProps_length (P : Params) : (crossProps P).length = 2 * P.nb := by
  unfold crossProps
  rw [List.length_flatMap]
  show ((List.range P.nb).map fun _ => 2).sum = 2 * P.nb
  rw [List.map_const', List.sum_replicate_nat, List.length_range, Nat.mul_comm]

/-- the frame of the two-bloc generators: each bloc gets its bloc-first and its cross-over share -/
theorem crossApportioned_spec {P : Params} {f : List Nat → Nat → GenM (List Ballot)}
    (hf : ∀ counts b, Ensures (f counts b) (UnitPool ((counts[2 * b]?).getD 0 + (counts[2 * b + 1]?).getD 0))) :
    Ensures (expectApportion (crossProps P) P.N >>= fun counts => (List.range P.nb).mapM (f counts))
      (fun bb => bb.flatten.length = P.N ∧ ∀ b ∈ bb.flatten, b.weight = 1) := by
  refine ensures_bind (expectApportion_spec (crossProps P) P.N) fun counts hc => ?_
  refine (ensures_mapM_flatten fun b _ => hf counts b).weaken fun out ho => ⟨?_, ho.2⟩
  rw [ho.1, sum_by_pairs P.nb counts (by rw [hc.1, crossProps_length]), ← sumNat_eq_sum, hc.2]

/-- AlternatingCrossover -/
theorem C14_runAC (P : Params) :
    Ensures (runAC P) (fun bb => bb.flatten.length = P.N ∧ ∀ b ∈ bb.flatten, b.weight = 1) := by
  unfold runAC
  refine crossApportioned_spec fun counts b => ensures_bind_any fun own => ensures_bind_any fun other => ?_
  refine (repeatM_spec (Q := fun x => x.weight = 1) fun i => ?_).weaken fun o ho => ⟨by rw [ho.1, Nat.add_comm], ho.2⟩
  refine ensures_bind_any fun bc => ensures_bind_any fun oc => ensures_pure ?_
  split <;> rfl

theorem expectTypes_spec (pool : Option (List (List Nat × Rat))) (k : Nat) (what : String) :
    Ensures (expectTypes pool k what) (fun res => res.length = k) := by
  unfold expectTypes
  refine ensures_bind_any fun c => ?_
  split
  · refine ensures_guard fun h => ?_
    simp only [Bool.or_eq_true, decide_eq_true_eq, not_or, Decidable.not_not] at h
    split
    · exact ensures_pure h.2
    · exact ensures_guard fun _ => ensures_ite (fun _ => ensures_pure h.2) (fun _ => ensures_bad)
  · exact ensures_bad

/-- CambridgeSampler -/
theorem C14_runCambridge (P : Params) :
    Ensures (runCambridge P) (fun bb => bb.flatten.length = P.N ∧ ∀ b ∈ bb.flatten, b.weight = 1) := by
  unfold runCambridge
  refine crossApportioned_spec fun counts b =>
    ensures_bind_any fun ownIv => ensures_bind_any fun oppIv => ensures_bind_any fun comb => ?_
  refine ensures_bind (expectTypes_spec _ _ _) fun t1 h1 => ensures_bind (expectTypes_spec _ _ _) fun t2 h2 => ?_
  refine ensures_mapM (by rw [List.length_append, h1, h2]) fun ty _ => ?_
  exact ensures_bind_any fun pl => ensures_pure rfl

theorem UnitPool.condense {N : Nat} {bs : List Ballot} (h : UnitPool N bs) :
    totalWeight (condense bs) = N ∧ ∀ b ∈ condense bs, ∃ n : Nat, 0 < n ∧ b.weight = (n : Rat) :=
  ⟨by rw [C14_pool_total _ h.2, h.1], C14_pool_weights_pos_int _ h.2⟩

/-- **Every bloc generator, end to end.** For each of the ten bloc-based generator kinds of the model:
whatever log of primitive calls `Gen.run` accepts, the profile it returns has total weight exactly `N`,
positive whole-number weights, and its total is the sum of the per-bloc profiles' totals. -/
theorem C14_run_all_bloc_kinds (P : Params) (log : List Call) (out : GenOut)
    (hk : P.kind ∈ ["pl", "short_pl", "cumulative", "bt", "bt_mcmc", "ac", "cambridge", "slate_pl", "slate_bt", "slate_bt_mcmc"])
    (hnb : P.nb = P.props.length) (h : run P log = .ok out) :
    totalWeight out.agg = P.N ∧ (∀ b ∈ out.agg, ∃ n : Nat, 0 < n ∧ b.weight = (n : Rat)) ∧
      totalWeight out.agg = rsum (out.byBloc.map totalWeight) := by
  have hgens : ∀ g ∈ blocGens P, Ensures g (fun bb => UnitPool P.N bb.flatten) := by
    have hpl : ∀ L, Ensures (runPL P L) (fun bb => UnitPool P.N bb.flatten) := fun L =>
      (C14_runPL P L hnb).weaken fun _ h => ⟨h.1, h.2.1⟩
    have hcum : Ensures (runCumulative P) (fun bb => UnitPool P.N bb.flatten) :=
      (C14_runCumulative P hnb).weaken fun bb h => ⟨h.1, fun b hb => by
        obtain ⟨bs, hbs, hb⟩ := List.mem_flatten.1 hb
        obtain ⟨d, rfl, _⟩ := h.2 bs hbs b hb
        rfl⟩
    simp only [blocGens, List.forall_mem_cons]
    exact ⟨hpl _, hpl _, C14_runBT P hnb, C14_runBTmcmc P hnb, C14_runAC P, C14_runCambridge P, hcum,
      C14_runSlatePL P hnb, C14_runSlateBT P false hnb, C14_runSlateBT P true hnb, nofun⟩
  -- `hk` lists the kinds in another order than `Gen.run` does: "cumulative" comes third
  have hk' := (List.Perm.cons _ (.cons _ (List.perm_middle (l₁ := ["bt", "bt_mcmc", "ac", "cambridge"]).symm))).mem_iff.1 hk
  obtain ⟨g, hg, bb, hbb, rfl⟩ := (if_pos hk').mp (run_ok h)
  have hpool := (hgens g hg log bb [] hbb).condense
  refine ⟨hpool.1, hpool.2, ?_⟩
  rw [List.map_map]
  exact C14_sum_profiles_total bb

/-- BallotSimplex kinds (point, ImpartialCulture, ImpartialAnonymousCulture): `N` unit ballots -/
theorem C14_runSimplex (P : Params) : Ensures (runSimplex P) (UnitPool P.N) := by
  unfold runSimplex
  extract_lets perms n draw
  have hdraw : ∀ probs, Ensures (draw probs) (UnitPool P.N) := fun probs =>
    ensures_bind (expectChoiceIdx_spec _ _ P.N _) fun idx hidx => drawn_pool hidx _ _
  exact ensures_ite (fun _ => ensures_bind_any hdraw) fun _ => ensures_ite (fun _ => ensures_bind_any hdraw) fun _ =>
    ensures_ite (fun _ => ensures_bad_bind) fun _ => ensures_bind_any hdraw

/-- the profile `Gen.run` returns for the simplex kinds has total weight `N` and whole positive weights -/
theorem C14_run_simplex (P : Params) (log : List Call) (out : GenOut) (hk : P.kind ∈ ["point", "ic", "iac"])
    (h : run P log = .ok out) :
    totalWeight out.agg = P.N ∧ ∀ b ∈ out.agg, ∃ n : Nat, 0 < n ∧ b.weight = (n : Rat) := by
  have hnb : ∀ k ∈ ["point", "ic", "iac"], k ∉ ["pl", "short_pl", "bt", "bt_mcmc", "ac", "cambridge", "cumulative",
      "slate_pl", "slate_bt", "slate_bt_mcmc"] := by decide
  have hrun := run_ok h
  rw [if_neg (hnb _ hk), if_pos hk] at hrun
  obtain ⟨bs, hbs, rfl⟩ := hrun
  exact (C14_runSimplex P log bs [] hbs).condense

end Gen
end VK
