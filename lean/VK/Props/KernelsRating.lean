/-
  The three tests of `GeneralRating._validate_profile`, regenerated from /repo's
  current source, are the ones the model's validator (and C05's accept-iff theorems) use.
-/
import VK.Model.Generated.Rating
import VK.Model.Rules
import Mathlib.Algebra.Order.Field.Rat

namespace VK

/-- a ballot passes the model's validator exactly when it has scores and none of the source's three
refusal tests fires (per-candidate limit, negative score, budget) -/
theorem kernel_rating_validator (L : Rat) (k : Option Rat) (b : Ballot) :
    ratingBallotOk L k b =
      (!b.scores.isEmpty &&
       b.scores.all (fun cs => !Generated.overLimit cs.2 L) &&
       b.scores.all (fun cs => !Generated.negScore cs.2) &&
       (match k with
        | some k => !Generated.overBudget (rsum (b.scores.map (·.2))) k
        | none => true)) := by
  cases k <;> simp [ratingBallotOk, Generated.overLimit, Generated.negScore, Generated.overBudget, ← not_lt]

end VK
