/-
  Property C19 — Lp profile distance is a true metric; the ballot graph is complete and exact.
-/
import VK.Model.Metric
import VK.Model.BallotGraph
import VK.Lemmas.Sum
import Mathlib.Analysis.MeanInequalities
import Mathlib.Data.List.Nodup

namespace VK

/-- p-norm distance of two real-valued functions on a finite index set -/
noncomputable def lpDist {ι : Type} (s : Finset ι) (p : ℝ) (f g : ι → ℝ) : ℝ :=
  (∑ i ∈ s, |f i - g i| ^ p) ^ (1 / p)

theorem C19_symm {ι : Type} (s : Finset ι) (p : ℝ) (f g : ι → ℝ) : lpDist s p f g = lpDist s p g f := by
  unfold lpDist
  congr 1
  apply Finset.sum_congr rfl
  intro i _
  rw [abs_sub_comm]

/-- **Zero exactly for equal distributions.** -/
theorem C19_zero_iff {ι : Type} (s : Finset ι) (p : ℝ) (hp : 0 < p) (f g : ι → ℝ) :
    lpDist s p f g = 0 ↔ ∀ i ∈ s, f i = g i := by
  unfold lpDist
  have hterm : ∀ i ∈ s, 0 ≤ |f i - g i| ^ p := fun i _ => Real.rpow_nonneg (abs_nonneg _) p
  rw [Real.rpow_eq_zero (Finset.sum_nonneg hterm) (one_div_ne_zero hp.ne'),
    Finset.sum_eq_zero_iff_of_nonneg hterm]
  refine forall₂_congr fun i _ => ?_
  rw [Real.rpow_eq_zero (abs_nonneg _) hp.ne', abs_eq_zero, sub_eq_zero]

/-- **Triangle inequality** for every `p ≥ 1` (Minkowski). -/
theorem C19_triangle {ι : Type} (s : Finset ι) (p : ℝ) (hp : 1 ≤ p) (f g h : ι → ℝ) :
    lpDist s p f h ≤ lpDist s p f g + lpDist s p g h := by
  unfold lpDist
  simpa only [sub_add_sub_cancel] using Real.Lp_add_le s (fun i => f i - g i) (fun i => g i - h i) hp

/-- **Triangle inequality for the maximum ('inf')**: any bound on the two legs bounds the third side.
Pointwise only: no theorem applies it to the model's `lInf`. -/
theorem C19_inf_triangle {ι : Type} (s : Finset ι) (f g h : ι → ℝ) (M₁ M₂ : ℝ)
    (h₁ : ∀ i ∈ s, |f i - g i| ≤ M₁) (h₂ : ∀ i ∈ s, |g i - h i| ≤ M₂) :
    ∀ i ∈ s, |f i - h i| ≤ M₁ + M₂ :=
  fun i hi => (abs_sub_le (f i) (g i) (h i)).trans (add_le_add (h₁ i hi) (h₂ i hi))

theorem rankWt_scale (bs : List Ballot) (c : Rat) (r : Ranking) :
    rankWt (bs.map (fun b => { b with weight := c * b.weight })) r = c * rankWt bs r := by
  unfold rankWt
  rw [List.filter_map, List.map_map]
  exact rsum_map_mul_left _ Ballot.weight c

theorem totalWeight_scale (bs : List Ballot) (c : Rat) :
    totalWeight (bs.map (fun b => { b with weight := c * b.weight })) = c * totalWeight bs := by
  unfold totalWeight
  rw [List.map_map]
  exact rsum_map_mul_left bs Ballot.weight c

/-- **Rescaling all weights leaves every share unchanged.** -/
theorem C19_share_scale_invariant (bs : List Ballot) (c : Rat) (hc : c ≠ 0) (r : Ranking) :
    share (bs.map (fun b => { b with weight := c * b.weight })) r = share bs r := by
  unfold share
  rw [rankWt_scale, totalWeight_scale, mul_div_mul_left _ _ hc]

theorem rankWt_perm {bs bs' : List Ballot} (h : bs.Perm bs') (r : Ranking) : rankWt bs r = rankWt bs' r := by
  unfold rankWt
  rw [rsum_eq_sum, rsum_eq_sum]
  exact ((h.filter _).map _).sum_eq

/-- **Reordering the ballots leaves every share unchanged.** -/
theorem C19_share_perm_invariant {bs bs' : List Ballot} (h : bs.Perm bs') (r : Ranking) :
    share bs r = share bs' r := by
  unfold share totalWeight
  rw [rankWt_perm h, rsum_eq_sum, rsum_eq_sum, (h.map _).sum_eq]

theorem mem_cands1n (n x : Nat) : x ∈ (List.range n).map (· + 1) ↔ 1 ≤ x ∧ x ≤ n := by
  simp only [List.mem_map, List.mem_range]
  constructor
  · rintro ⟨a, ha, rfl⟩; exact ⟨Nat.le_add_left 1 a, ha⟩
  · rintro ⟨h1, h2⟩; exact ⟨x - 1, Nat.sub_one_lt_of_le h1 h2, Nat.sub_add_cancel h1⟩

theorem cands1n_nodup (n : Nat) : ((List.range n).map (· + 1)).Nodup :=
  List.nodup_range.map fun _ _ h => Nat.succ.inj h

/-- the one-step extensions of `t` in `seqs` -/
theorem mem_extend (n : Nat) (t s : List Nat) :
    s ∈ ((List.range n).map (· + 1)).filterMap (fun c => if t.contains c then none else some (t ++ [c])) ↔
      ∃ c, (1 ≤ c ∧ c ≤ n) ∧ c ∉ t ∧ t ++ [c] = s := by
  simp only [List.mem_filterMap, mem_cands1n, List.contains_iff_mem, Option.ite_none_left_eq_some,
    Option.some.injEq]

/-- **`seqs n k` is exactly the duplicate-free sequences of length `k` over `1..n`.** -/
theorem C19_seqs_spec (n k : Nat) (s : List Nat) :
    s ∈ seqs n k ↔ s.length = k ∧ s.Nodup ∧ ∀ x ∈ s, 1 ≤ x ∧ x ≤ n := by
  induction k generalizing s with
  | zero =>
    simp only [seqs, List.mem_singleton]
    exact ⟨fun h => h ▸ ⟨rfl, List.nodup_nil, fun _ hx => absurd hx List.not_mem_nil⟩,
      fun h => List.length_eq_zero_iff.1 h.1⟩
  | succ k ih =>
    simp only [seqs, List.mem_flatMap, mem_extend, ih]
    constructor
    · rintro ⟨t, ⟨hl, hnd, hr⟩, c, hc, hct, rfl⟩
      refine ⟨by rw [List.length_append, hl]; rfl, List.nodup_append.2 ⟨hnd, List.nodup_singleton c, ?_⟩, ?_⟩
      · rintro a ha b hb rfl
        exact hct (List.mem_singleton.1 hb ▸ ha)
      · exact fun x hx => (List.mem_append.1 hx).elim (hr x) fun h => List.mem_singleton.1 h ▸ hc
    · rintro ⟨hl, hnd, hr⟩
      rcases List.eq_nil_or_concat s with rfl | ⟨t, c, rfl⟩
      · cases hl
      · rw [List.concat_eq_append] at hl hnd hr ⊢
        rw [List.length_append] at hl
        have hc : c ∈ t ++ [c] := List.mem_append_right t (List.mem_singleton_self c)
        rw [List.nodup_append] at hnd
        exact ⟨t, ⟨Nat.succ.inj hl, hnd.1, fun x hx => hr x (List.mem_append_left _ hx)⟩,
          c, hr c hc, fun hct => hnd.2.2 c hct c (List.mem_singleton_self c) rfl, rfl⟩

/-- **Nodes**: exactly the rankings of length 1..n except length n−1. -/
theorem C19_nodes (n : Nat) (l : List Nat) :
    l ∈ specNodes n ↔ l.Nodup ∧ (∀ x ∈ l, 1 ≤ x ∧ x ≤ n) ∧ 1 ≤ l.length ∧ l.length ≤ n ∧ l.length + 1 ≠ n := by
  simp only [specNodes, List.mem_flatMap, mem_cands1n]
  constructor
  · rintro ⟨k, hk, hl⟩
    split at hl
    · cases hl
    · obtain ⟨rfl, h2, h3⟩ := (C19_seqs_spec n k l).1 hl
      exact ⟨h2, h3, hk.1, hk.2, by assumption⟩
  · rintro ⟨h1, h2, h3, h4, h5⟩
    exact ⟨l.length, ⟨h3, h4⟩, by rw [if_neg h5]; exact (C19_seqs_spec n _ l).2 ⟨rfl, h1, h2⟩⟩

/-- **Edges**: exactly the pairs of adjacent nodes (each unordered pair once, smaller node first). -/
theorem C19_edges (n : Nat) (u v : List Nat) :
    (u, v) ∈ specEdges n ↔ u ∈ specNodes n ∧ v ∈ specNodes n ∧ lexLt u v = true ∧ adj n u v = true := by
  simp only [specEdges, List.mem_flatMap, List.mem_map, List.mem_filter, Bool.and_eq_true, Prod.mk.injEq]
  constructor
  · rintro ⟨a, ha, b, ⟨hb, hlt, hadj⟩, rfl, rfl⟩
    exact ⟨ha, hb, hlt, hadj⟩
  · rintro ⟨hu, hv, hlt, hadj⟩
    exact ⟨u, hu, v, ⟨hv, hlt, hadj⟩, rfl, rfl⟩

theorem swapAt_cons_succ (a : Nat) (t : List Nat) (p : Nat) : swapAt (a :: t) (p + 1) = a :: swapAt t p := by
  cases t <;> rfl

theorem swapAt_perm (u : List Nat) (p : Nat) : (swapAt u p).Perm u := by
  induction u generalizing p with
  | nil => cases p <;> rfl
  | cons a t ih =>
    cases p with
    | zero =>
      rcases t with _ | ⟨b, r⟩
      · rfl
      · exact List.Perm.swap a b r
    | succ p => rw [swapAt_cons_succ]; exact (ih p).cons a

theorem swapAt_length (u : List Nat) (i : Nat) : (swapAt u i).length = u.length :=
  (swapAt_perm u i).length_eq

theorem swapAt_involutive (u : List Nat) (i : Nat) : swapAt (swapAt u i) i = u := by
  induction u generalizing i with
  | nil => cases i <;> rfl
  | cons a t ih =>
    cases i with
    | zero => cases t <;> rfl
    | succ i => rw [swapAt_cons_succ, swapAt_cons_succ, ih]

theorem swapAt_map (f : Nat → Nat) (k : List Nat) (p : Nat) : swapAt (k.map f) p = (swapAt k p).map f := by
  induction k generalizing p with
  | nil => cases p <;> rfl
  | cons a t ih =>
    cases p with
    | zero => cases t <;> rfl
    | succ p => rw [List.map_cons, swapAt_cons_succ, swapAt_cons_succ, ih, List.map_cons]

/-- the swap that leads from `u` to `v` leads back -/
theorem anySwap_symm (u v : List Nat) :
    (List.range (u.length - 1)).any (fun i => swapAt u i == v) =
    (List.range (v.length - 1)).any (fun i => swapAt v i == u) := by
  have half : ∀ u v : List Nat, (∃ i, i < u.length - 1 ∧ swapAt u i = v) → ∃ i, i < v.length - 1 ∧ swapAt v i = u := by
    rintro u _ ⟨i, hi, rfl⟩
    exact ⟨i, by rwa [swapAt_length], swapAt_involutive u i⟩
  rw [Bool.eq_iff_iff]
  simp only [List.any_eq_true, List.mem_range, beq_iff_eq]
  exact ⟨half u v, half v u⟩

theorem isAdjSwap_symm (u v : List Nat) : isAdjSwap u v = isAdjSwap v u := by
  unfold isAdjSwap
  rw [anySwap_symm u v, bne_comm, decide_eq_decide.2 (eq_comm (a := u.length))]

/-- **Adjacency is symmetric.** -/
theorem C19_adj_symm (n : Nat) (u v : List Nat) : adj n u v = adj n v u := by
  unfold adj
  rw [isAdjSwap_symm u v, Bool.or_right_comm (isAdjSwap v u), Bool.or_right_comm (_ || _ || _)]

/-- **A ballot of length n−1 is completed by its one missing candidate and becomes a node.** -/
theorem C19_fix_short (n : Nat) (b : List Nat) (hnd : b.Nodup) (hr : ∀ x ∈ b, 1 ≤ x ∧ x ≤ n)
    (hl : b.length + 1 = n) :
    (fixShort n b).take b.length = b ∧ (∀ x ∈ fixShort n b, 1 ≤ x ∧ x ≤ n) ∧ (fixShort n b).Nodup := by
  unfold fixShort
  rw [if_pos hl]
  refine ⟨by simp, ?_, ?_⟩
  · intro x hx
    rcases List.mem_append.1 hx with hx | hx
    · exact hr x hx
    · exact (mem_cands1n n x).1 (List.mem_filter.1 hx).1
  · refine List.nodup_append.2 ⟨hnd, (cands1n_nodup n).filter _, ?_⟩
    rintro a ha c hc rfl
    simpa [ha] using (List.mem_filter.1 hc).2

example : specNodes 3 = [[1], [2], [3], [1, 2, 3], [1, 3, 2], [2, 1, 3], [2, 3, 1], [3, 1, 2], [3, 2, 1]] ∧
    (specEdges 3).length = 12 ∧ fixShort 3 [3, 1] = [3, 1, 2] := by decide +kernel

end VK
