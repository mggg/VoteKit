/-
  C08, "listing the candidates in a different order": running a rule on the same ballots with the declared
  candidates listed in another order gives the same rounds, each group and each score dictionary merely re-listed
  in the new order (`reRS`): same groups as sets (`reRS_same_sets`), same tallies, same tiebreak resolutions, same
  exceptions. Single-round rules here; the STV family in `C08CandOrderSTV`.
-/
import VK.Lemmas.ReorderScore
namespace VK

def reStates (c' : List Cand) (st : States) : States := st.map (reRS c')

theorem topMRun_re (p : Profile) (c' : List Cand) (hperm : c'.Perm p.cands) (hN : p.cands.Nodup)
    (m : Nat) (tb : Option TB) (pri : List Cand) (score : Profile → Outcome (List (Cand × Rat))) (hs : OrderFree score) :
    topMRun (withCands p c') m tb pri score = (topMRun p m tb pri score).map (reStates c') := by
  rw [topMRun_eq, topMRun_eq]
  refine Outcome.bind_map_comm _ (hs.re p c' hperm) fun sc0 hsc0 => ?_
  have hk : GoodGroup c' (sc0.map (·.1)) := hs.keys p sc0 hsc0 ▸ goodGroup_of_perm hperm hN
  rw [initialState_re c' p.cands _ sc0 hk]
  exact electRound_re p c' hperm hN m tb pri score hs _ _ (scoreToRanking_groups_good c' sc0 hk.1 hk.2 true)

theorem C08_plurality_cand_order (p : Profile) (c' : List Cand) (hperm : c'.Perm p.cands) (hN : p.cands.Nodup)
    (m : Nat) (tb : Option TB) (pri : List Cand) :
    pluralityRun (withCands p c') m tb pri = (pluralityRun p m tb pri).map (reStates c') :=
  Outcome.ite_map rfl (topMRun_re p c' hperm hN m tb pri _ orderFree_fpv)

theorem C08_borda_cand_order (p : Profile) (c' : List Cand) (hperm : c'.Perm p.cands) (hN : p.cands.Nodup)
    (m : Nat) (v : Option (List Rat)) (tb : Option TB) (pri : List Cand) :
    bordaRun (withCands p c') m v tb pri = (bordaRun p m v tb pri).map (reStates c') := by
  unfold bordaRun
  rw [show (withCands p c').cands.length = p.cands.length from hperm.length_eq]
  extract_lets vec
  exact Outcome.ite_map rfl (Outcome.ite_map rfl (topMRun_re p c' hperm hN m tb pri _ (orderFree_rankings vec)))

theorem C08_rating_cand_order (p : Profile) (c' : List Cand) (hperm : c'.Perm p.cands) (hN : p.cands.Nodup)
    (m : Int) (L : Rat) (k : Option Rat) (tb : Option TB) (pri : List Cand) :
    generalRatingRun (withCands p c') m L k tb pri = (generalRatingRun p m L k tb pri).map (reStates c') :=
  Outcome.ite_map rfl (Outcome.ite_map rfl (topMRun_re p c' hperm hN m.toNat tb pri _ orderFree_ballotScores))

/-- the six score-ballot classes -/
theorem C08_scorerule_cand_order (rule : ScoreRule) (p : Profile) (c' : List Cand) (hperm : c'.Perm p.cands)
    (hN : p.cands.Nodup) (m : Int) (L : Rat) (k : Option Rat) (tb : Option TB) (pri : List Cand) :
    scoreRuleRun rule (withCands p c') m L k tb pri = (scoreRuleRun rule p m L k tb pri).map (reStates c') := by
  cases rule with
  | limited => exact Outcome.ite_map rfl (C08_rating_cand_order p c' hperm hN m _ _ tb pri)
  | _ => exact C08_rating_cand_order p c' hperm hN m _ _ tb pri

end VK
