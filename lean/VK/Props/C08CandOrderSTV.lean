/-
  C08, "listing the candidates in a different order", STV family (fractional and full-weight transfer: STV, IRV,
  SequentialRCV): the same ballots counted with the declared candidates listed in another order give the same
  threshold and the same rounds, each group and score dictionary re-listed in the new order and nothing else
  changed; the same exception otherwise. Under the random transfer the order can decide which exception is raised
  (`C08_cand_order_random_transfer_differs`).
-/
import VK.Lemmas.ReorderSTV
import VK.Props.C08CandOrder
namespace VK

def reTrace (c' : List Cand) (tr : List (RoundState × CState)) : List (RoundState × CState) :=
  tr.map (fun x => (reRS c' x.1, reCS c' x.2))

def reResult (c' : List Cand) (res : STVResult) : STVResult :=
  { threshold := res.threshold, trace := reTrace c' res.trace }

theorem reResult_states (c' : List Cand) (res : STVResult) : (reResult c' res).states = res.states.map (reRS c') := by
  simp only [STVResult.states, reResult, reTrace, List.map_map, Function.comp_def]

theorem stvLoop_re (c' : List Cand) (hN : c'.Nodup) (cfg : STVCfg) (hnr : cfg.transfer ≠ .random)
    (init : Profile) (hperm : c'.Perm init.cands) (hNi : init.cands.Nodup) (q : Int) (ω : STVOracle)
    (fuel : Nat) (S : CState) (prev : RoundState) (hI : ReInv c' S prev) (acc : List (RoundState × CState)) :
    stvLoop cfg (withCands init c') q ω fuel (reCS c' S) (reRS c' prev) (reTrace c' acc) =
      (stvLoop cfg init q ω fuel S prev acc).map (reTrace c') := by
  induction fuel generalizing S prev acc with
  | zero => exact Outcome.ite_map (Outcome.ok_reverse_map _ acc) rfl
  | succ n ih =>
    refine Outcome.ite_map (Outcome.ok_reverse_map _ acc) ?_
    exact Outcome.bind_map_comm _ (stvStep_re c' hN cfg hnr init hperm hNi q ω (prev.round + 1) S prev hI)
      fun x hst => ih x.1 x.2 (reInv_step c' cfg init q ω _ S x.1 prev x.2 hI hst) ((x.2, x.1) :: acc)

theorem C08_stv_cand_order (cfg : STVCfg) (hnr : cfg.transfer ≠ .random) (p : Profile) (c' : List Cand)
    (hperm : c'.Perm p.cands) (hN : p.cands.Nodup) (ω : STVOracle) (quotaOk : Bool) :
    stvRun cfg (withCands p c') ω quotaOk = (stvRun cfg p ω quotaOk).map (reResult c') := by
  have hp := goodGroup_of_perm hperm hN
  unfold stvRun
  rw [show (withCands p c').cands.length = p.cands.length from hperm.length_eq]
  refine Outcome.ite_map rfl (Outcome.ite_map rfl (Outcome.ite_map rfl ?_))
  refine Outcome.bind_map_comm _ (firstPlaceVotes_re p c' hperm) fun sc0 hsc => ?_
  have hk0 : sc0.map (·.1) = p.cands := scoreFromRankings_keys p _ sc0 hsc
  rw [initialState_re c' p.cands _ sc0 (hk0 ▸ hp), stvInitState_re p c' hperm]
  exact Outcome.bind_map_comm _ (stvLoop_re c' (hperm.nodup_iff.mpr hN) cfg hnr p hperm hN _ ω _ _ _
    (ReInv.init hN hp.2 hk0) [(initialState p.cands (some sc0), stvInitState p)]) fun tr _ => rfl

theorem C08_irv_cand_order (p : Profile) (c' : List Cand) (hperm : c'.Perm p.cands) (hN : p.cands.Nodup)
    (quota : Quota) (tb : Option TB) (ω : STVOracle) (quotaOk : Bool) :
    irvRun (withCands p c') quota tb ω quotaOk = (irvRun p quota tb ω quotaOk).map (reResult c') :=
  C08_stv_cand_order _ (by simp) p c' hperm hN ω quotaOk

theorem C08_seqrcv_cand_order (cfg : STVCfg) (p : Profile) (c' : List Cand) (hperm : c'.Perm p.cands)
    (hN : p.cands.Nodup) (ω : STVOracle) (quotaOk : Bool) :
    seqRCVRun cfg (withCands p c') ω quotaOk = (seqRCVRun cfg p ω quotaOk).map (reResult c') :=
  C08_stv_cand_order _ (by simp) p c' hperm hN ω quotaOk

def orderDemo : Profile :=
  { ballots := [⟨[[0], [1]], 4, []⟩, ⟨[[1], [2]], 3, []⟩, ⟨[[2], [1]], 2, []⟩], cands := [0, 1, 2] }

example : (stvRun { m := 1 } orderDemo {}).isOk = true := by decide +kernel
example : stvRun { m := 1 } (withCands orderDemo [2, 0, 1]) {} =
    (stvRun { m := 1 } orderDemo {}).map (reResult [2, 0, 1]) :=
  C08_stv_cand_order _ (by simp) orderDemo [2, 0, 1] (by decide) (by decide) {} true

/-- The hypothesis `cfg.transfer ≠ .random` of `C08_stv_cand_order` cannot be dropped: two winners tied at the head
of a simultaneous round, one whose pile has a fractional weight (TypeError) and one with a surplus and no
transferable ballot (ValueError: sample larger than population) - the one listed first decides the exception. -/
def randomOrderWitness : Profile :=
  { ballots := [⟨[[0]], 7/2, []⟩, ⟨[[0], [2]], 1/2, []⟩, ⟨[[1]], 4, []⟩, ⟨[[2]], 1/2, []⟩], cands := [0, 1, 2] }

theorem C08_cand_order_random_transfer_differs :
    (stvRun { m := 2, transfer := .random } randomOrderWitness {}).map (fun r => r.states.length) = .raised .typeError ∧
    (stvRun { m := 2, transfer := .random } (withCands randomOrderWitness [1, 0, 2]) {}).map (fun r => r.states.length) =
      .raised .valueError := by
  constructor <;> decide +kernel

end VK
