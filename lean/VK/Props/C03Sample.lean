/-
  C03, random rule: "every transferable ballot of the winner is equally likely to be chosen".
  `random.sample(population, k)` picks a position uniformly, removes it, and repeats `k` times
  (the law also used for C17's tiebreak theorem). Under that law every one of the `n` transferable unit
  ballots is in the kept sample with probability exactly `k / n`.
-/
import VK.Props.C17
import VK.Props.C03

namespace VK
open Dist

/-- law of `random.sample(xs, k)`: `k` sequential uniform picks without replacement -/
def sampleK {α} : Nat → List α → Dist (List α)
  | 0, _ => Dist.pure []
  | k + 1, xs =>
    if xs.isEmpty then Dist.pure []
    else Dist.bind (Dist.uniform (List.range xs.length)) (fun i =>
      match xs[i]? with
      | some a => Dist.bind (sampleK k (dropIdx xs i)) (fun rest => Dist.pure (a :: rest))
      | none => Dist.pure [])

theorem sampleK_eq_shuffleDist {α} (k : Nat) (xs : List α) : sampleK k xs = shuffleDist k xs := by
  induction k generalizing xs with
  | zero => rfl
  | succ k ih =>
    simp only [sampleK, shuffleDist, ih]
    rfl

theorem sampleK_mass {α} (k : Nat) : ∀ xs : List α, (sampleK k xs).mass = 1 := fun xs => by
  rw [sampleK_eq_shuffleDist, shuffleDist_mass]

/-- **Every transferable ballot is equally likely to be kept.** Sampling `k ≤ n` of `n` distinct unit
ballots by sequential uniform picks keeps any given one of them with probability `k / n`. -/
theorem C03_sample_inclusion (k : Nat) : ∀ (xs : List Nat) (a : Nat), xs.Nodup → a ∈ xs → k ≤ xs.length →
    evProb (sampleK k xs) (fun s => decide (a ∈ s)) = (k : Rat) / (xs.length : Rat) := by
  induction k with
  | zero =>
    intro xs a _ _ _
    rw [Nat.cast_zero, zero_div]
    rfl
  | succ k ih =>
    intro xs a hnd ha hk
    obtain ⟨m, hm⟩ := Nat.exists_eq_succ_of_ne_zero (List.length_pos_of_mem ha).ne'
    -- condition on the first pick: with probability 1/n it is `a`, and then `a` is kept for certain;
    -- otherwise the rest keeps `a` with probability k/(n-1); and (1 + (n-1)·k/(n-1))/n = (k+1)/n
    rw [sampleK_eq_shuffleDist, hm, shuffle_first_pick k m xs hnd hm a ha _ 1 ((k : Rat) / m)]
    · rw [mul_div_cancel_of_imp' (fun h => by rw [Nat.cast_eq_zero] at h ⊢; omega), Nat.cast_succ k, add_comm]
    · intro ys _ _ _ _
      simp only [List.mem_cons_self, decide_true]
      rw [← mass_eq_evProb, shuffleDist_mass]
    · intro b ys hb hnd' hl hmem
      rw [← sampleK_eq_shuffleDist, ← hl, ← ih ys a hnd' hmem (by omega)]
      apply evProb_congr
      intro e _
      simp only [List.mem_cons, Ne.symm hb, false_or]

-- non-vacuity: keeping 2 of 3 ballots keeps ballot 7 with probability 2/3
example : evProb (sampleK 2 [5, 7, 9]) (fun s => decide (7 ∈ s)) = 2 / 3 := by decide +kernel

end VK
