/-
  BoostedRandomDictator's kernels regenerated from /repo's current source equal the
  model's (C17).
-/
import VK.Model.Generated.Dictator
import VK.Model.Rules
import Mathlib.Algebra.Order.Field.Rat
import Mathlib.Tactic.Ring

namespace VK

/-- the source's branch threshold of BoostedRandomDictator is the probability the model's law uses -/
theorem kernel_boosted_branch (n : Nat) : Generated.boostedBranch n = 1 / ((n : Rat) - 1) := by
  unfold Generated.boostedBranch
  first
    | rfl
    | ring
    | (simp; ring)

/-- the source's comparison `u <= 1/(c-1)` is the test of the model's `boostedPick` -/
theorem kernel_boosted_takes_squares (u : Rat) (n : Nat) :
    Generated.boostedTakesSquares u n = decide (u ≤ 1 / ((n : Rat) - 1)) := by
  unfold Generated.boostedTakesSquares
  first
    | rfl
    | simp

/-- the source's single-candidate test is `n = 1` (the model matches the candidate list against `[c]`) -/
theorem kernel_boosted_single (n : Nat) : Generated.boostedSingle n = decide (n = 1) := by
  simp [Generated.boostedSingle]

end VK
