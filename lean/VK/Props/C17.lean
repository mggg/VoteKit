/-
  Property C17 — randomised rules and random tiebreaks draw from the documented distributions.
  The laws are stated in `Dist` (finite rational distributions) under the named laws of the library
  primitives (see VK.Model.Dist); the correspondence check ties the *arguments* the implementation
  passes to those primitives to the ones the model uses.
-/
import VK.Lemmas.DistLemmas

namespace VK
open Dist

/-- share of ballot `b` that goes to `c` when `b` is drawn: 1/k for each of the k candidates tied
in its first position -/
def firstShare (b : Ballot) (c : Cand) : Rat :=
  match b.ranking with
  | [] => 0
  | first :: _ => ((first.filter (· = c)).length : Rat) * (1 / (first.length : Rat))

/-- **RandomDictator step.** The probability that `c` wins the round is its share of the current
first-place weight, a tied first place being split evenly. -/
theorem C17_rd_step (p : Profile) (c : Cand) :
    (rdStepDist p).prob c =
      rsum (p.ballots.map (fun b => b.weight / totalWeight p.ballots * firstShare b c)) := by
  rw [rsum_map_div_mul, rdStepDist, prob_bind_weighted]
  simp only [List.map_map, Function.comp_def]
  congr 2
  apply List.map_congr_left
  intro b _
  unfold firstShare
  cases b.ranking with
  | nil => rfl
  | cons first rest => simp only [prob_uniform]

/-- the same, with the common denominator pulled out: Σ_b w_b·share_b(c) / W -/
theorem C17_rd_step' (p : Profile) (c : Cand) :
    (rdStepDist p).prob c =
      rsum (p.ballots.map (fun b => b.weight * firstShare b c)) / totalWeight p.ballots := by
  rw [C17_rd_step, rsum_map_div_mul]

/-- the round's law is a probability distribution (total mass one) when every ballot has a
non-empty first position and the total weight is non-zero -/
theorem C17_rd_mass (p : Profile) (hW : totalWeight p.ballots ≠ 0)
    (hr : ∀ b ∈ p.ballots, ∃ f rest, b.ranking = f :: rest ∧ f ≠ []) :
    (rdStepDist p).mass = 1 := by
  unfold rdStepDist
  rw [mass_bind_of_forall, mass_weighted]
  · simpa only [totalWeight, List.map_map, Function.comp_def] using hW
  · intro ap hap
    simp only [weighted, List.map_map, List.mem_map, Function.comp_def] at hap
    obtain ⟨b, hb, rfl⟩ := hap
    obtain ⟨f, rest, hf, hne⟩ := hr b hb
    simp only [hf]
    exact mass_uniform f hne

/-- **BoostedRandomDictator step** with `n ≥ 2` remaining candidates: with probability `1/(n-1)` the
proportional-to-squares rule, otherwise the RandomDictator rule. -/
theorem C17_boosted_step (p : Profile) (scores : List (Cand × Rat)) (c : Cand)
    (hn : 2 ≤ p.cands.length) :
    (brdStepDist p scores).prob c =
      (1 / ((p.cands.length : Rat) - 1)) * (squaresDist scores).prob c +
      (1 - 1 / ((p.cands.length : Rat) - 1)) * (rdStepDist p).prob c := by
  unfold brdStepDist
  split
  · rename_i h
    rw [h] at hn
    exact absurd hn (Nat.lt_irrefl 1)
  · rw [prob_bind]
    simp only [bernoulli, List.map_cons, List.map_nil, rsum_cons, rsum_nil, add_zero, if_true,
      Bool.false_eq_true, if_false]

/-- the proportional-to-squares law: `score(c)² / Σ score(d)²` (candidates listed once) -/
theorem C17_squares (scores : List (Cand × Rat)) (hk : (scores.map (·.1)).Nodup) (c : Cand) (v : Rat)
    (hc : (c, v) ∈ scores) :
    (squaresDist scores).prob c = v * v / rsum (scores.map (fun cs => cs.2 * cs.2)) := by
  unfold squaresDist
  rw [prob_weighted_nodup _ c (v * v), List.map_map]
  · rfl
  · simpa only [List.map_map, Function.comp_def] using hk
  · exact List.mem_map.2 ⟨(c, v), hc, rfl⟩

/-- non-vacuity: ballots {A,B} > C with weight 3 and C with weight 1 -/
example : (rdStepDist { ballots := [{ ranking := [[0, 1], [2]], weight := 3 }, { ranking := [[2]], weight := 1 }],
                        cands := [0, 1, 2] }).prob 0 = 3 / 8 := by decide +kernel

theorem dropIdx_perm {α} (xs : List α) (j : Nat) (a : α) (h : xs[j]? = some a) :
    (a :: dropIdx xs j).Perm xs := by
  induction xs generalizing j with
  | nil => cases h
  | cons x xs ih =>
    cases j with
    | zero => cases h; exact .refl _
    | succ k => exact (List.Perm.swap x a _).trans ((ih k h).cons x)

/-- one round of the shuffle of a non-empty list: a uniform index, the entry there put before a shuffle of the rest -/
theorem shuffleDist_succ {α} (k : Nat) (xs : List α) (h : xs ≠ []) :
    shuffleDist (k + 1) xs = Dist.bind (Dist.uniform (List.range xs.length)) (fun i =>
      match xs[i]? with
      | some a => Dist.bind (shuffleDist k (dropIdx xs i)) (fun rest => Dist.pure (a :: rest))
      | none => Dist.pure []) := by
  rw [shuffleDist, if_neg (by simpa using h)]
  rfl

theorem shuffleDist_mass {α} (k : Nat) (xs : List α) : (shuffleDist k xs).mass = 1 := by
  induction k generalizing xs with
  | zero => exact mass_pure _
  | succ k ih =>
    rw [shuffleDist]
    split
    · exact mass_pure _
    · rename_i hne
      rw [mass_bind_of_forall, mass_uniform]
      · simpa using hne
      · intro ap _
        split
        · rw [mass_bind_pure, ih]
        · exact mass_pure _

/-- **Conditioning on the first pick.** If the event has probability `A` once `a` has been picked
and `B` once anyone else has, it has probability `(A + m·B) / (m + 1)`. All the hypotheses get to
know of the remaining list `ys` is that it is `xs` without the pick. -/
theorem shuffle_first_pick {α} (k m : Nat) (xs : List α) (hnd : xs.Nodup) (hlen : xs.length = m + 1)
    (a : α) (ha : a ∈ xs) (E : List α → Bool) (A B : Rat)
    (hA : ∀ ys, (a :: ys).Perm xs → ys.Nodup → ys.length = m → a ∉ ys →
      evProb (shuffleDist k ys) (fun rest => E (a :: rest)) = A)
    (hB : ∀ b ys, b ≠ a → ys.Nodup → ys.length = m → a ∈ ys →
      evProb (shuffleDist k ys) (fun rest => E (b :: rest)) = B) :
    evProb (shuffleDist (k + 1) xs) E = (A + (m : Rat) * B) / ((m + 1 : Nat) : Rat) := by
  obtain ⟨j, hj, hja⟩ := List.getElem_of_mem ha
  rw [shuffleDist_succ k xs (List.ne_nil_of_mem ha), evProb_bind_uniform, List.length_range,
    List.map_congr_left (g := fun i => 1 / (xs.length : Rat) * if i = j then A else B),
    rsum_map_mul_left, hlen, rsum_range_ite m j (hlen ▸ hj), one_div_mul_eq_div]
  intro i hi
  have hil := List.mem_range.1 hi
  have hi? : xs[i]? = some xs[i] := List.getElem?_eq_getElem hil
  have hp := dropIdx_perm xs i _ hi?
  have hnd' := List.nodup_cons.1 (hp.nodup_iff.2 hnd)
  have hl : (dropIdx xs i).length = m := Nat.succ.inj (hp.length_eq.trans hlen)
  simp only [hi?]
  rw [evProb_bind_pure]
  by_cases hij : i = j
  · subst hij
    rw [if_pos rfl]
    rw [hja] at hp hnd' ⊢
    rw [hA _ hp hnd'.2 hl hnd'.1]
  · have hne : xs[i] ≠ a := fun e => hij ((List.Nodup.getElem_inj_iff hnd).1 (e.trans hja.symm))
    rw [if_neg hij, hB _ _ hne hnd'.2 hl ((List.mem_cons.1 (hp.mem_iff.2 ha)).resolve_left (Ne.symm hne))]

/-- **Sequential uniform picks give every order of a tied set the same probability `1/k!`.** -/
theorem C17_tiebreak_uniform (n : Nat) (xs σ : List Cand) (hnd : xs.Nodup) (hlen : xs.length = n)
    (hσ : σ.Perm xs) : (shuffleDist n xs).prob σ = 1 / (fact n : Rat) := by
  induction n generalizing xs σ with
  | zero =>
    have hx : xs = [] := List.length_eq_zero_iff.1 hlen
    subst hx
    have : σ = [] := List.Perm.eq_nil hσ
    subst this
    rw [shuffleDist, prob_pure, if_pos rfl, fact, Nat.cast_one, div_one]
  | succ n ih =>
    cases σ with
    | nil => simp [← hσ.length_eq] at hlen
    | cons a τ =>
      rw [prob_eq_evProb, shuffle_first_pick n n xs hnd hlen a (hσ.subset List.mem_cons_self) _
        (1 / (fact n : Rat)) 0, mul_zero, add_zero, div_div, ← Nat.cast_mul, mul_comm]
      · rfl
      · intro ys hp hnd' hl _
        simp only [List.cons.injEq, true_and]
        exact ih ys τ hnd' hl (hσ.trans hp.symm).cons_inv
      · intro b ys hb _ _ _
        simp only [List.cons.injEq, hb, false_and, decide_false, evProb_false]

theorem prob_seq_cons (d : Dist Cand) (F : Cand → Dist (List Cand)) (c : Cand) (r : List Cand) :
    (Dist.bind d (fun c' => Dist.bind (F c') (fun rest => Dist.pure (c' :: rest)))).prob (c :: r) =
      d.prob c * (F c).prob r :=
  prob_bind_bind_cons d F c r

/-- law of the first `m` RandomDictator winners: a round on the current profile, then the remaining
seats on the profile without the winner (`remove_cand`, as `rdLoop` does) -/
def rdSeqDist : Nat → Profile → Dist (List Cand)
  | 0, _ => Dist.pure []
  | m + 1, p => Dist.bind (rdStepDist p) (fun c =>
      Dist.bind (rdSeqDist m (removeCand [c] p)) (fun rest => Dist.pure (c :: rest)))

/-- **Multi-seat RandomDictator.** The probability that the seats go to `c :: r` in this order is the
round law of `c` on the current profile times the probability of `r` on the profile with `c` removed:
the sequence law is the product of the round laws on the successively reduced profiles. This is a
statement about `rdSeqDist`, which is written after `rdLoop`; no theorem relates the two. -/
theorem C17_rd_sequence (m : Nat) (p : Profile) (c : Cand) (r : List Cand) :
    (rdSeqDist (m + 1) p).prob (c :: r) = (rdStepDist p).prob c * (rdSeqDist m (removeCand [c] p)).prob r := by
  rw [rdSeqDist]
  exact prob_seq_cons _ _ c r

theorem C17_rd_two_seats (p : Profile) (c₁ c₂ : Cand) :
    (rdSeqDist 2 p).prob [c₁, c₂] = (rdStepDist p).prob c₁ * (rdStepDist (removeCand [c₁] p)).prob c₂ := by
  rw [C17_rd_sequence, C17_rd_sequence, rdSeqDist, prob_pure, if_pos rfl, mul_one]

end VK
