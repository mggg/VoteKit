/-
  Property C02 — each STV/IRV/SequentialRCV round is a legal step of the documented count.
-/
import VK.Lemmas.Legal
import Mathlib.Data.Rat.Floor
import Mathlib.Algebra.Order.Floor.Ring

namespace VK

theorem C02_threshold_droop (m : Nat) (N : Rat) :
    threshold .droop m N = ⌊N / ((m : Rat) + 1)⌋ + 1 := by
  show ⌊N / ((m : Rat) + 1) + 1⌋ = _
  exact Int.floor_add_one _

theorem C02_threshold_hare (m : Nat) (N : Rat) : threshold .hare m N = ⌊N / (m : Rat)⌋ := rfl

/-- the defining Droop inequalities -/
theorem C02_droop_bounds (m : Nat) (N : Rat) :
    N / ((m : Rat) + 1) < (threshold .droop m N : Rat) ∧
    (threshold .droop m N : Rat) ≤ N / ((m : Rat) + 1) + 1 := by
  rw [C02_threshold_droop, Int.cast_add, Int.cast_one]
  exact ⟨Int.lt_floor_add_one _, add_le_add_left (Int.floor_le _) 1⟩

theorem C07_threshold_pos (m : Nat) (N : Rat) (hN : 0 ≤ N) : 1 ≤ threshold .droop m N := by
  rw [C02_threshold_droop]
  exact le_add_of_nonneg_left (Int.floor_nonneg.2 (div_nonneg hN (Nat.cast_add_one_pos m).le))

/-- the threshold a run reports is computed from the initial total weight, not from the weight left in a round -/
theorem C02_threshold_of_run (cfg : STVCfg) (p : Profile) (ω : STVOracle) (r : STVResult)
    (h : stvRun cfg p ω = .ok r) : r.threshold = threshold cfg.quota cfg.m p.total := by
  obtain ⟨_, _, _, _, _, _, _, rfl⟩ := stvRun_eq_ok.1 h
  rfl

/-- C02 — each round is a legal step of the documented count (every quota, mode, tiebreak and oracle; for
the random transfer nothing is said about the new weights). That `inv` and `hl` hold in every round of a run is
`stvLoop_inv` with `stvStep_linked`. For the round `r` recorded by a successful step from the count state `S`:

* the tallies and candidate order recorded for the round are the first-place weights of the
  resulting ballots (`Linked S' r`);
* if some tally is at or above the threshold nobody is eliminated, every elected candidate is a
  hopeful candidate at or above the threshold — in simultaneous mode exactly those, in one-by-one
  mode a single candidate of maximal tally — the hopeful set loses exactly the winners, and every
  ballot counted for a winner `w` continues at `weight · (tally w − q) / tally w` (fractional rule;
  unchanged for SequentialRCV's full-weight rule) while all other ballots are untouched;
* otherwise, if the remaining candidates equal the unfilled seats they are all elected and the
  count is over; and otherwise nobody is elected, exactly one candidate is eliminated, it has a
  minimal tally, and no ballot weight changes. -/
theorem C02_legal_step (cfg : STVCfg) (init : Profile) (q : Int) (ω : STVOracle) (rnd : Nat)
    (S S' : CState) (prev r : RoundState) (recs : List RoundState)
    (hi : init.cands.Nodup) (hcs : ∀ c ∈ S.hopeful, c ∈ init.cands)
    (inv : StvInv init.cands S prev recs) (hl : Linked S prev)
    (h : stvStep cfg init q ω rnd S prev = .ok (S', r)) :
    Linked S' r ∧
    ((∃ c ∈ S.hopeful, (q : Rat) ≤ tally S.bs S.hopeful c) →
        r.eliminated = [] ∧
        (∀ c ∈ r.elected.flatten, c ∈ S.hopeful ∧ (q : Rat) ≤ tally S.bs S.hopeful c) ∧
        (cfg.simultaneous = true →
          ∀ c, c ∈ r.elected.flatten ↔ (c ∈ S.hopeful ∧ (q : Rat) ≤ tally S.bs S.hopeful c)) ∧
        (cfg.simultaneous = false → r.elected.flatten.length = 1 ∧
          ∀ w ∈ r.elected.flatten, ∀ c ∈ S.hopeful, tally S.bs S.hopeful c ≤ tally S.bs S.hopeful w) ∧
        S'.hopeful = S.hopeful.filter (fun c => !r.elected.flatten.contains c) ∧
        (cfg.transfer = .fractional →
          S'.bs = scaleAll S.hopeful q (fun w => tally S.bs S.hopeful w) r.elected.flatten S.bs) ∧
        (cfg.transfer = .full → S'.bs = S.bs)) ∧
    ((∀ c ∈ S.hopeful, tally S.bs S.hopeful c < (q : Rat)) →
        ((S.hopeful.length = cfg.m - S.nElected ∧ S.nElected ≤ cfg.m) →
          r.elected = prev.remaining ∧ r.eliminated = [] ∧ S'.hopeful = []) ∧
        (¬ (S.hopeful.length = cfg.m - S.nElected ∧ S.nElected ≤ cfg.m) →
          r.elected = [] ∧ S'.bs = S.bs ∧
          ∃ c, r.eliminated = [[c]] ∧ c ∈ S.hopeful ∧ S'.hopeful = S.hopeful.filter (fun x => x != c) ∧
            ∀ d ∈ S.hopeful, tally S.bs S.hopeful c ≤ tally S.bs S.hopeful d)) := by
  have hlink := stvStep_linked cfg init q ω rnd S S' prev r h
  have hbelow : (prev.scores.filter (fun cs => decide ((q : Rat) ≤ cs.2))).isEmpty = true →
      ¬ ∃ c ∈ S.hopeful, (q : Rat) ≤ tally S.bs S.hopeful c :=
    fun hab hex => Bool.false_ne_true (((above_iff S prev q hl).2 hex).symm.trans hab)
  rcases stvStep_eq_ok.1 h with ⟨g, tbs, bs', hab, he, ha, rfl, rfl⟩ | ⟨hab, hfill, rfl, rfl⟩ |
    ⟨hab, hfill, lowest, c, tbs, hlast, hlc, rfl, rfl⟩
  · -- election round: somebody is at the threshold, so only the second clause has content
    obtain ⟨c0, hc0, hq0⟩ := (above_iff S prev q hl).1 hab
    refine ⟨hlink, fun _ => ?_, fun hb => absurd (hb c0 hc0) (not_lt.2 hq0)⟩
    obtain ⟨hWn, hWs⟩ := electChoice_spec cfg q ω rnd S prev g tbs inv.hop_nodup inv.rem he
    refine ⟨rfl, ?_, ?_, ?_, rfl, ?_, ?_⟩
    · exact fun c hc => ⟨hWs c hc, electChoice_ge cfg q ω rnd S prev g tbs hl inv.hop_nodup hab he c hc⟩
    · intro hsim c
      rw [electChoice_simultaneous hsim he]
      exact simultaneous_winners_exact S prev q hl inv.hop_nodup c
    · exact fun hsim => onebyone_winner_max cfg q ω rnd S prev g tbs hl inv.hop_nodup hsim he
    · exact fun hf => applyTransfers_fractional_pointwise cfg S.hopeful q _ hf g.flatten S.bs bs' hWn ha
    · exact fun hf => applyTransfers_full cfg S.hopeful q _ g.flatten S.bs bs' hf ha
  · -- the remaining candidates fill the seats
    refine ⟨hlink, fun hex => absurd hex (hbelow hab), fun _ => ⟨fun _ => ⟨rfl, rfl, rfl⟩, ?_⟩⟩
    exact fun hn => absurd ⟨hfill.2, hfill.1⟩ hn
  · -- elimination round: the loser comes from the last group, which carries the minimal tally
    obtain ⟨hcl, hlh⟩ := loser_hopeful hi inv hlast hlc
    obtain ⟨v0, hv0, hmin⟩ := last_group_min prev.scores lowest (hl.2 ▸ hlast)
      (by rw [hl.1, tallies_keys]; exact inv.hop_nodup)
    rw [hl.1] at hv0 hmin
    refine ⟨hlink, fun hex => absurd hex (hbelow hab), fun _ => ⟨fun hc => absurd ⟨hc.2, hc.1⟩ hfill, fun _ => ?_⟩⟩
    refine ⟨rfl, rfl, c, rfl, hlh c hcl, rfl, fun d hd => ?_⟩
    rw [(mem_tallies.1 (hv0 c hcl).1).2]
    exact hmin (d, _) (mem_tallies.2 ⟨hd, rfl⟩)

/-- non-vacuity: 10 votes, 2 seats: Droop 4, Hare 5 -/
example : threshold .droop 2 10 = 4 ∧ threshold .hare 2 10 = 5 := by decide +kernel

end VK
