/-
  Property C09 — the status table of `get_status_df`: in the table that `statusLoop` folds out of the per-round
  records, a candidate's row shows the LAST round that lists it - as elected, as eliminated, or as still remaining -
  and nothing else touches the row. `getStatus` runs this fold on the rounds `1 .. k` and then lists the rows in
  ranking order; that last step is not treated here.
-/
import VK.Model.Election
import Mathlib.Data.List.Basic
namespace VK

/-- what one recorded round does to the row of candidate `c` (the body of `statusUpdate`) -/
def rowUpd (c : Cand) (row : Status × Nat) (s : RoundState) (i : Nat) : Status × Nat :=
  let (stt, rd) := row
  let (stt, rd) := if s.elected.flatten.contains c then (Status.elected, i) else (stt, rd)
  let (stt, rd) := if s.eliminated.flatten.contains c then (Status.eliminated, i) else (stt, rd)
  let rd := if s.remaining.flatten.contains c then i else rd
  (stt, rd)

def rowLoop (c : Cand) (row : Status × Nat) : List RoundState → Nat → Status × Nat
  | [], _ => row
  | s :: rest, i => rowLoop c (rowUpd c row s i) rest (i + 1)

theorem statusUpdate_eq_map (tbl : List (Cand × Status × Nat)) (s : RoundState) (i : Nat) :
    statusUpdate tbl s i = tbl.map (fun row => (row.1, rowUpd row.1 row.2 s i)) := rfl

theorem statusUpdate_find (tbl : List (Cand × Status × Nat)) (s : RoundState) (i : Nat) (c : Cand) :
    (statusUpdate tbl s i).find? (fun row => row.1 = c) =
      (tbl.find? (fun row => row.1 = c)).map (fun row => (row.1, rowUpd row.1 row.2 s i)) := by
  rw [statusUpdate_eq_map, List.find?_map]
  rfl

/-- the rows of the table evolve independently, each by `rowLoop` -/
theorem statusLoop_find (tbl : List (Cand × Status × Nat)) (rounds : List RoundState) (i : Nat) (c : Cand) :
    (statusLoop tbl rounds i).find? (fun row => row.1 = c) =
      (tbl.find? (fun row => row.1 = c)).map (fun row => (row.1, rowLoop row.1 row.2 rounds i)) := by
  induction rounds generalizing tbl i with
  | nil => simp [statusLoop, rowLoop]
  | cons s rest ih =>
    simp only [statusLoop, rowLoop]
    rw [ih, statusUpdate_find]
    cases tbl.find? (fun row => row.1 = c) <;> rfl

theorem statusInit_find (cands : List Cand) (c : Cand) (hc : c ∈ cands) :
    (cands.map (fun c => ((c, Status.remaining, 0) : Cand × Status × Nat))).find? (fun row => row.1 = c) =
      some (c, Status.remaining, 0) := by
  induction cands with
  | nil => cases hc
  | cons a rest ih =>
    simp only [List.map_cons, List.find?_cons]
    by_cases ha : a = c
    · simp [ha]
    · simp only [ha, decide_false]
      rcases List.mem_cons.mp hc with h | h
      · exact absurd h.symm ha
      · exact ih h

def Untouched (c : Cand) (s : RoundState) : Prop :=
  c ∉ s.elected.flatten ∧ c ∉ s.eliminated.flatten ∧ c ∉ s.remaining.flatten

theorem rowUpd_untouched (c : Cand) (row : Status × Nat) (s : RoundState) (i : Nat) (h : Untouched c s) :
    rowUpd c row s i = row := by
  obtain ⟨h1, h2, h3⟩ := h
  simp [rowUpd, h1, h2, h3]

theorem rowLoop_untouched (c : Cand) (row : Status × Nat) (rounds : List RoundState) (i : Nat)
    (h : ∀ s ∈ rounds, Untouched c s) : rowLoop c row rounds i = row := by
  induction rounds generalizing row i with
  | nil => rfl
  | cons s rest ih =>
    simp only [rowLoop]
    rw [rowUpd_untouched c row s i (h s List.mem_cons_self)]
    exact ih row (i + 1) (fun x hx => h x (List.mem_cons_of_mem _ hx))

theorem rowLoop_append (c : Cand) (row : Status × Nat) (pre post : List RoundState) (i : Nat) :
    rowLoop c row (pre ++ post) i = rowLoop c (rowLoop c row pre i) post (i + pre.length) := by
  induction pre generalizing row i with
  | nil => rfl
  | cons s rest ih =>
    simp only [List.cons_append, rowLoop, List.length_cons]
    rw [ih]
    congr 1
    omega

/-- the row of `c` after the rounds `pre ++ s :: post` when no round of `post` lists `c`: what round `s`
(number `pre.length + 1`) makes of the row reached after `pre` -/
theorem status_row (cands : List Cand) (c : Cand) (hc : c ∈ cands) (pre post : List RoundState) (s : RoundState)
    (hpost : ∀ x ∈ post, Untouched c x) :
    (statusLoop (cands.map (fun c => (c, Status.remaining, 0))) (pre ++ s :: post) 1).find? (fun row => row.1 = c) =
      some (c, rowUpd c (rowLoop c (Status.remaining, 0) pre 1) s (pre.length + 1)) := by
  rw [statusLoop_find, statusInit_find cands c hc, Option.map_some, rowLoop_append, rowLoop,
    rowLoop_untouched c _ post _ hpost, Nat.add_comm]

theorem rowLoop_keeps_status (c : Cand) (l : List RoundState) (row : Status × Nat) (i : Nat)
    (h : ∀ x ∈ l, c ∉ x.elected.flatten ∧ c ∉ x.eliminated.flatten) : (rowLoop c row l i).1 = row.1 := by
  induction l generalizing row i with
  | nil => rfl
  | cons a rest ih =>
    obtain ⟨h1, h2⟩ := h a List.mem_cons_self
    rw [rowLoop, ih _ _ (fun x hx => h x (List.mem_cons_of_mem _ hx))]
    simp [rowUpd, h1, h2]

/-- **C09 (status table, elected).** If round `pre.length + 1` is the last round that lists `c` and lists it as
elected (not also as eliminated or remaining), the row of `c` reads (elected, that round). -/
theorem C09_status_elected (cands : List Cand) (c : Cand) (hc : c ∈ cands) (pre post : List RoundState)
    (s : RoundState) (he : c ∈ s.elected.flatten) (hl : c ∉ s.eliminated.flatten) (hr : c ∉ s.remaining.flatten)
    (hpost : ∀ x ∈ post, Untouched c x) :
    (statusLoop (cands.map (fun c => (c, Status.remaining, 0))) (pre ++ s :: post) 1).find? (fun row => row.1 = c) =
      some (c, Status.elected, pre.length + 1) := by
  rw [status_row cands c hc pre post s hpost]
  simp [rowUpd, he, hl, hr]

theorem C09_status_eliminated (cands : List Cand) (c : Cand) (hc : c ∈ cands) (pre post : List RoundState)
    (s : RoundState) (hl : c ∈ s.eliminated.flatten) (hr : c ∉ s.remaining.flatten)
    (hpost : ∀ x ∈ post, Untouched c x) :
    (statusLoop (cands.map (fun c => (c, Status.remaining, 0))) (pre ++ s :: post) 1).find? (fun row => row.1 = c) =
      some (c, Status.eliminated, pre.length + 1) := by
  rw [status_row cands c hc pre post s hpost]
  simp [rowUpd, hl, hr]

/-- **C09 (status table, remaining).** A candidate that no round at all elects or eliminates and that round
`pre.length + 1` is the last to list as remaining has the row (remaining, that round). -/
theorem C09_status_remaining (cands : List Cand) (c : Cand) (hc : c ∈ cands) (pre post : List RoundState)
    (s : RoundState) (hr : c ∈ s.remaining.flatten)
    (hne : ∀ x ∈ pre ++ s :: post, c ∉ x.elected.flatten ∧ c ∉ x.eliminated.flatten)
    (hpost : ∀ x ∈ post, c ∉ x.remaining.flatten) :
    (statusLoop (cands.map (fun c => (c, Status.remaining, 0))) (pre ++ s :: post) 1).find? (fun row => row.1 = c) =
      some (c, Status.remaining, pre.length + 1) := by
  have hpre : ∀ x ∈ pre, x ∈ pre ++ s :: post := fun x hx => List.mem_append_left _ hx
  have hin : ∀ x ∈ s :: post, x ∈ pre ++ s :: post := fun x hx => List.mem_append_right _ hx
  rw [status_row cands c hc pre post s (fun x hx =>
    have h := hne x (hin x (List.mem_cons_of_mem _ hx))
    ⟨h.1, h.2, hpost x hx⟩)]
  obtain ⟨h1, h2⟩ := hne s (hin s List.mem_cons_self)
  -- the rounds before `s` leave the status at `remaining`
  have h3 := rowLoop_keeps_status c pre (Status.remaining, 0) 1 (fun x hx => hne x (hpre x hx))
  simp [rowUpd, h1, h2, hr, h3]

theorem C09_status_never_listed (cands : List Cand) (c : Cand) (hc : c ∈ cands) (rounds : List RoundState)
    (h : ∀ x ∈ rounds, Untouched c x) :
    (statusLoop (cands.map (fun c => (c, Status.remaining, 0))) rounds 1).find? (fun row => row.1 = c) =
      some (c, Status.remaining, 0) := by
  rw [statusLoop_find, statusInit_find cands c hc]
  simp only [Option.map_some]
  rw [rowLoop_untouched c _ rounds _ h]

/-- non-vacuity: three candidates, one elected in round 1, one eliminated in round 2, one left -/
example :
    (statusLoop ([0, 1, 2].map (fun c => (c, Status.remaining, 0)))
      [{ round := 1, elected := [[0]], remaining := [[1], [2]] },
       { round := 2, eliminated := [[2]], remaining := [[1]] }] 1) =
    [(0, Status.elected, 1), (1, Status.remaining, 2), (2, Status.eliminated, 2)] := by decide +kernel

end VK
