/-
  C08, ballot representation for the STV family stated with `RepEq` (through `linEq_of_repEq`) and for Alaska
  (fractional transfer, Droop quota, every mode and tiebreak): equivalent representations of a profile of untied
  ranked ballots over declared candidates give the same rounds.
-/
import VK.Props.C08Rep
import VK.Props.C08Scored
import VK.Props.C02
namespace VK

/-- untied ranked ballots over the declared candidates, no score dictionaries -/
def RankedWF (cands : List Cand) (bs : List Ballot) : Prop :=
  ∀ b ∈ bs, b.ranking ≠ [] ∧ (∀ s ∈ b.ranking, s.length = 1) ∧ (∀ x ∈ b.ranking.flatten, x ∈ cands) ∧ b.scores = []

section
variable {cands : List Cand} {bs : List Ballot} (h : RankedWF cands bs)
include h

theorem RankedWF.ne_nil : ∀ b ∈ bs, b.ranking ≠ [] := fun b hb => (h b hb).1
theorem RankedWF.untied : ∀ b ∈ bs, ∀ s ∈ b.ranking, s.length = 1 := fun b hb => (h b hb).2.1
theorem RankedWF.declared : ∀ b ∈ bs, ∀ x ∈ b.ranking.flatten, x ∈ cands := fun b hb => (h b hb).2.2.1

end

theorem rankedWF_iff {cands : List Cand} {bs : List Ballot} :
    RankedWF cands bs ↔ ∀ k, HasContent bs k →
      k.1 ≠ [] ∧ (∀ s ∈ k.1, s.length = 1) ∧ (∀ x ∈ k.1.flatten, x ∈ cands) ∧ k.2 = [] :=
  ⟨fun h _ ⟨b, hb, e⟩ => e ▸ h b hb, fun h b hb => h _ ⟨b, hb, rfl⟩⟩

theorem rankedWF_of_same {cands : List Cand} {a b : List Ballot} (h : ∀ k, HasContent a k ↔ HasContent b k)
    (ha : RankedWF cands a) : RankedWF cands b :=
  rankedWF_iff.2 fun k hk => rankedWF_iff.1 ha k ((h k).2 hk)

theorem C08_stv_rep (cfg : STVCfg) (hf : cfg.transfer = .fractional) (hq : cfg.quota = .droop)
    (cands : List Cand) (hcn : cands.Nodup) (a b : List Ballot) (h : RepEq a b) (hwf : RankedWF cands a)
    (ω : STVOracle) :
    RelResult (stvRun cfg { ballots := a, cands := cands } ω) (stvRun cfg { ballots := b, cands := cands } ω) := by
  have hwf' : RankedWF cands b := rankedWF_of_same h.same hwf
  refine C08_stv_representation_invariant_fractional cfg _ _ ω hf rfl hcn ?_ (linEq_of_repEq cands a b h)
    h.pos h.pos' hwf.ne_nil hwf.untied hwf.declared hwf'.ne_nil hwf'.untied hwf'.declared
  rw [hq]
  exact Int.zero_lt_one.trans_le (C07_threshold_pos _ _ (totalWeight_nonneg a fun b hb => (h.pos b hb).le))

theorem scrubRanking_singletons (e : List Cand) (r : Ranking) (h : ∀ s ∈ r, s.length = 1) :
    ∀ s ∈ scrubRanking e r, s.length = 1 := by
  intro s hs
  obtain ⟨hs1, hs2⟩ := List.mem_filter.mp hs
  obtain ⟨s0, hs0, rfl⟩ := List.mem_map.mp hs1
  -- a non-empty sublist of a singleton
  have h1 := h s0 hs0 ▸ List.length_filter_le (fun c => !e.contains c) s0
  have h2 := List.length_pos_iff.2 (List.isEmpty_eq_false_iff.1 (Bool.not_eq_true' _ ▸ hs2))
  omega

theorem scrubRanking_mem (e : List Cand) (r : Ranking) (x : Cand) (hx : x ∈ (scrubRanking e r).flatten) :
    x ∈ r.flatten ∧ e.contains x = false := by
  unfold scrubRanking at hx
  obtain ⟨s, hs, hxs⟩ := List.mem_flatten.mp hx
  obtain ⟨hs1, _⟩ := List.mem_filter.mp hs
  obtain ⟨s0, hs0, rfl⟩ := List.mem_map.mp hs1
  obtain ⟨hx0, hp⟩ := List.mem_filter.mp hxs
  exact ⟨List.mem_flatten.mpr ⟨s0, hs0, hx0⟩, by simpa using hp⟩

theorem rankedWF_removeCand (cands e : List Cand) (a : List Ballot) (hp : PosW a) (hwf : RankedWF cands a) :
    RankedWF (cands.filter (fun c => !e.contains c)) (removeCandBallots e a true false) := by
  refine rankedWF_iff.2 fun k' hk' => ?_
  -- a content of the condensed list is a content of a kept ballot, which is a scrubbed input content
  obtain ⟨k, hk, hex, rfl⟩ := (hasContent_kept e a hp k').1 ((hasContent_condense _ _).1 hk')
  obtain ⟨_, h1, h2, h3⟩ := rankedWF_iff.1 hwf k hk
  have hs : scrubScores e k.2 = [] := by rw [h3]; rfl
  refine ⟨fun e0 => ?_, scrubRanking_singletons e k.1 h1, fun c hc => ?_, hs⟩
  · rw [exhaustedC, show scrubRanking e k.1 = [] from e0, hs] at hex
    cases hex
  · obtain ⟨hc1, hc2⟩ := scrubRanking_mem e k.1 c hc
    exact List.mem_filter.2 ⟨h2 c hc1, by rw [hc2]; rfl⟩

/-- Alaska respects the representation as far as its STV stage does on what the finalist stage hands on. -/
theorem alaska_rep_of_stv (cands : List Cand) (a b : List Ballot) (h : RepEq a b) (m1 m2 : Int) (cfg : STVCfg)
    (ω : STVOracle)
    (hstv : ∀ e ω', RelResult (stvRun { cfg with m := m2.toNat } (removeCand e { ballots := a, cands := cands }) ω')
      (stvRun { cfg with m := m2.toNat } (removeCand e { ballots := b, cands := cands }) ω')) :
    alaskaRun { ballots := a, cands := cands } m1 m2 cfg ω = alaskaRun { ballots := b, cands := cands } m1 m2 cfg ω := by
  unfold alaskaRun
  rw [rankingValid_rep cands a b h]
  refine congrArg _ (congrArg _ ((finalistStage_rep cands a b h m1.toNat cfg.tiebreak (ω.pri 1)).bind_eq ?_))
  rintro _ _ ⟨s0, s1, e, rfl, rfl⟩
  exact ((relResult_iff _ _).1 (hstv e _)).bind_eq fun ra rb hst => by rw [hst.2]

theorem C08_alaska_rep (cands : List Cand) (hcn : cands.Nodup) (a b : List Ballot) (h : RepEq a b)
    (hwf : RankedWF cands a) (m1 m2 : Int) (cfg : STVCfg) (hf : cfg.transfer = .fractional) (hq : cfg.quota = .droop)
    (ω : STVOracle) :
    alaskaRun { ballots := a, cands := cands } m1 m2 cfg ω = alaskaRun { ballots := b, cands := cands } m1 m2 cfg ω :=
  alaska_rep_of_stv cands a b h m1 m2 cfg ω fun e ω' =>
    C08_stv_rep { cfg with m := m2.toNat } hf hq _ (hcn.filter _) _ _ (h.removeCand e)
      (rankedWF_removeCand cands e a h.pos hwf) ω'

end VK
