/-
  Property C18 — cast-vote-record loading keeps every vote (table level).
  pandas' CSV reader / groupby and the csv module are modelled by their contract: the model starts
  from the parsed table; the harness writes real files and loads them with the implementation.
-/
import VK.Model.Loaders
import VK.Lemmas.Sum
import VK.Lemmas.Outcome
import VK.Lemmas.Condense

namespace VK

theorem mem_distinctPatterns (l : List (List Cell)) (p : List Cell) : p ∈ distinctPatterns l ↔ p ∈ l := by
  induction l with
  | nil => simp [distinctPatterns]
  | cons x xs ih => by_cases e : p = x <;> simp [distinctPatterns, ih, e]

theorem distinctPatterns_nodup (l : List (List Cell)) : (distinctPatterns l).Nodup := by
  induction l with
  | nil => simp [distinctPatterns]
  | cons x xs ih =>
    rw [distinctPatterns, List.nodup_cons]
    exact ⟨fun h => by simpa using (List.mem_filter.1 h).2, ih.filter _⟩

theorem loadTable_ok {cfg : CsvCfg} {ncols : Nat} {rows : List (List Cell)} {ids : List Cell}
    {weights : List Rat} {bs : List CsvBallot} (h : loadTable cfg ncols rows ids weights = .ok bs) :
    bs = (distinctPatterns (rows.map (patternOf (selectCols cfg ncols)))).map (fun p =>
      let grp := (rows.zip (ids.zip weights)).filter (fun t => patternOf (selectCols cfg ncols) t.1 = p)
      { pattern := p,
        weight := if cfg.weightCol.isSome then rsum (grp.map (·.2.2)) else (grp.length : Rat),
        voters := if cfg.idCol.isSome then grp.filterMap (·.2.1) else [] }) := by
  simp only [loadTable, Outcome.ite_raised_eq_ok, Outcome.ok.injEq] at h
  exact h.2.2.2.symm

/-- **One ballot per distinct row pattern of the selected columns, in column order.** -/
theorem C18_groups (cfg : CsvCfg) (ncols : Nat) (rows : List (List Cell)) (ids : List Cell)
    (weights : List Rat) (bs : List CsvBallot) (h : loadTable cfg ncols rows ids weights = .ok bs) :
    (bs.map (·.pattern)).Nodup ∧
    (∀ p, p ∈ bs.map (·.pattern) ↔ ∃ row ∈ rows, p = (selectCols cfg ncols).map (cellAt row)) := by
  obtain rfl := loadTable_ok h
  simp only [List.map_map, Function.comp_def, List.map_id']
  refine ⟨distinctPatterns_nodup _, fun p => ?_⟩
  simp only [mem_distinctPatterns, List.mem_map, patternOf, eq_comm]

theorem length_filter_zip {α β : Type} (f : α → Bool) (rs : List α) (ts : List β) (h : rs.length ≤ ts.length) :
    ((rs.zip ts).filter (fun t => f t.1)).length = (rs.filter f).length := by
  conv_rhs => rw [← List.map_fst_zip h, List.filter_map, List.length_map]
  rfl

/-- **Weights are multiplicities** (no weight column): each ballot weighs the number of rows with
its pattern. -/
theorem C18_weights_count (cfg : CsvCfg) (ncols : Nat) (rows : List (List Cell)) (ids : List Cell)
    (weights : List Rat) (bs : List CsvBallot) (hw : cfg.weightCol = none)
    (hlen : ids.length = rows.length ∧ weights.length = rows.length)
    (h : loadTable cfg ncols rows ids weights = .ok bs) :
    ∀ b ∈ bs, b.weight =
      ((rows.filter (fun r => (selectCols cfg ncols).map (cellAt r) = b.pattern)).length : Rat) := by
  obtain rfl := loadTable_ok h
  intro b hb
  obtain ⟨p, _, rfl⟩ := List.mem_map.1 hb
  simp only [hw, Option.isSome_none, Bool.false_eq_true, if_false]
  congr 1
  exact length_filter_zip (fun r => decide (patternOf (selectCols cfg ncols) r = p)) rows _
    (by simp [hlen.1, hlen.2])

/-- **No vote is lost**: the ballots' weights add up to the sum of the weight column, or to the number of
rows when there is none - every row is counted exactly once, on the ballot of its pattern. -/
theorem loadTable_total {cfg : CsvCfg} {ncols : Nat} {rows : List (List Cell)} {ids : List Cell}
    {weights : List Rat} {bs : List CsvBallot}
    (hi : ids.length = rows.length) (hw : weights.length = rows.length)
    (h : loadTable cfg ncols rows ids weights = .ok bs) :
    rsum (bs.map (·.weight)) = if cfg.weightCol.isSome then rsum weights else (rows.length : Rat) := by
  obtain rfl := loadTable_ok h
  have hkeys : ∀ t ∈ rows.zip (ids.zip weights), patternOf (selectCols cfg ncols) t.1 ∈
      distinctPatterns (rows.map (patternOf (selectCols cfg ncols))) := fun t ht =>
    (mem_distinctPatterns _ _).2 (List.mem_map_of_mem (List.of_mem_zip ht).1)
  have key := fun w => rsum_by_key _ (distinctPatterns_nodup _) _ _ w hkeys
  simp only [List.map_map, Function.comp_def]
  have one : ∀ l : List (List Cell × Cell × Rat), (l.length : Rat) = rsum (l.map fun _ => 1) :=
    fun l => by simp [rsum_replicate]
  split
  · rw [key]
    show rsum (List.map (Prod.snd ∘ Prod.snd) _) = _
    rw [← List.map_map, List.map_snd_zip (by simp [hi, hw]), List.map_snd_zip (by simp [hi, hw])]
  · simp only [one]
    rw [key, ← one, List.length_zip, List.length_zip, hi, hw, min_self, min_self]

/-- **The total weight equals the number of rows** (no weight column). -/
theorem C18_total (cfg : CsvCfg) (ncols : Nat) (rows : List (List Cell)) (ids : List Cell)
    (weights : List Rat) (bs : List CsvBallot) (hw : cfg.weightCol = none)
    (hlen : ids.length = rows.length ∧ weights.length = rows.length)
    (h : loadTable cfg ncols rows ids weights = .ok bs) :
    rsum (bs.map (·.weight)) = (rows.length : Rat) := by
  rw [loadTable_total hlen.1 hlen.2 h, hw]; rfl

/-- **With a weight column the total weight is the sum of the column**: every row's weight is counted
exactly once, on the ballot of its pattern. -/
theorem C18_total_weighted (cfg : CsvCfg) (ncols : Nat) (rows : List (List Cell)) (ids : List Cell)
    (weights : List Rat) (bs : List CsvBallot) (hw : cfg.weightCol.isSome = true)
    (hlen : ids.length = rows.length ∧ weights.length = rows.length)
    (h : loadTable cfg ncols rows ids weights = .ok bs) :
    rsum (bs.map (·.weight)) = rsum weights := by
  rw [loadTable_total hlen.1 hlen.2 h, if_pos hw]

/-- **Documented rejections**: empty data, a blank voter id, a duplicated voter id. -/
theorem C18_errors (cfg : CsvCfg) (ncols : Nat) (rows : List (List Cell)) (ids : List Cell) (weights : List Rat) :
    (rows = [] → loadTable cfg ncols rows ids weights = .raised .emptyData) ∧
    (rows ≠ [] → cfg.idCol.isSome = true → (∃ x ∈ ids, x = none) →
      loadTable cfg ncols rows ids weights = .raised .valueError) ∧
    (rows ≠ [] → cfg.idCol.isSome = true → (∀ x ∈ ids, x ≠ none) → ¬ (ids.filterMap id).Nodup →
      loadTable cfg ncols rows ids weights = .raised .dataError) := by
  refine ⟨fun h => by simp [loadTable, h], fun hne hid ⟨x, hx, hxn⟩ => ?_, fun hne hid hall hdup => ?_⟩
  · have h2 : ids.any (·.isNone) = true := List.any_eq_true.2 ⟨x, hx, by simp [hxn]⟩
    simp [loadTable, hne, hid, h2]
  · have h2 : ids.any (·.isNone) = false :=
      List.any_eq_false.2 fun x hx => by simpa using hall x hx
    have h3 : hasDup (ids.filterMap fun x => x) = true := (hasDup_iff _).2 hdup
    simp [loadTable, hne, hid, h2, h3]

end VK
