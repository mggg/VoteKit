/-
  C19, ballot graph: every ranking is a node exactly once, and loading a profile puts every cast
  ballot's weight on its node, so node weights add up to the profile's total weight.
-/
import VK.Props.C19

namespace VK

theorem seqs_nodup (n k : Nat) : (seqs n k).Nodup := by
  induction k with
  | zero => exact List.nodup_singleton []
  | succ k ih =>
    rw [seqs, List.nodup_flatMap]
    constructor
    · -- extensions of one sequence by distinct candidates are distinct
      intro s _
      refine (cands1n_nodup n).filterMap fun a a' b hb hb' => ?_
      split at hb
      · cases hb
      · split at hb'
        · cases hb'
        · exact List.singleton_inj.1 (List.append_cancel_left ((Option.some.inj hb).trans (Option.some.inj hb').symm))
    · -- extensions of different sequences are different (drop the last entry)
      refine ih.imp_of_mem fun {s t} _ _ hst x hx hx' => ?_
      obtain ⟨c, -, -, rfl⟩ := (mem_extend n s x).1 hx
      obtain ⟨c', -, -, h⟩ := (mem_extend n t _).1 hx'
      exact hst (List.append_inj' h rfl).1.symm

/-- **Every ranking is a node exactly once.** -/
theorem C19_nodes_nodup (n : Nat) : (specNodes n).Nodup := by
  rw [specNodes, List.nodup_flatMap]
  constructor
  · intro k _
    split
    · exact List.nodup_nil
    · exact seqs_nodup n k
  · -- sequences of different lengths are different
    refine (cands1n_nodup n).imp_of_mem fun {k k'} _ _ hkk x hx hx' => ?_
    dsimp only at hx hx'
    split at hx
    · cases hx
    · split at hx'
      · cases hx'
      · exact hkk (((C19_seqs_spec n k x).1 hx).1.symm.trans ((C19_seqs_spec n k' x).1 hx').1)

/-- **Node weights add up to the profile's total weight** whenever every cast ballot (after the
optional completion of length n−1 ballots) is a ranking the graph has a node for. -/
theorem C19_node_weights_total (n : Nat) (fix : Bool) (ballots : List (List Nat × Rat))
    (h : ∀ bw ∈ ballots, (if fix then fixShort n bw.1 else bw.1) ∈ specNodes n) :
    rsum ((nodeWeights n fix ballots).map (·.2)) = rsum (ballots.map (·.2)) := by
  rw [nodeWeights, List.map_map]
  exact rsum_by_key (specNodes n) (C19_nodes_nodup n) ballots (fun bw => if fix then fixShort n bw.1 else bw.1) (·.2) h

/-- each cast ballot's weight sits on its own node: the node of ranking `v` carries the summed weight of
the ballots that are `v` -/
theorem C19_node_weight (n : Nat) (fix : Bool) (ballots : List (List Nat × Rat)) (v : List Nat) (hv : v ∈ specNodes n) :
    (v, rsum ((ballots.filter (fun bw => (if fix then fixShort n bw.1 else bw.1) = v)).map (·.2))) ∈ nodeWeights n fix ballots :=
  List.mem_map.2 ⟨v, hv, rfl⟩

example : rsum ((nodeWeights 3 true [([1, 2, 3], 2), ([3, 1], 1/2), ([2], 3)]).map (·.2)) = 11/2 := by decide +kernel

end VK
