/-
  Property C17 — "a random tiebreak orders the tied candidates uniformly, so each tied candidate is equally likely to
  take the contested seat or be the one eliminated": under the uniform law of `random.sample` over the whole tied
  set (`shuffleDist`), every member of a tied set of k is first with probability 1/k and last with probability 1/k.
-/
import VK.Props.C17
namespace VK
open Dist

theorem shuffle_supp_perm (n : Nat) (xs : List Cand) (hlen : xs.length = n) :
    ∀ e ∈ (shuffleDist n xs).supp, e.1.Perm xs := by
  induction n generalizing xs with
  | zero =>
    intro e he
    rw [List.length_eq_zero_iff.1 hlen]
    rw [shuffleDist, Dist.pure, List.mem_singleton] at he
    rw [he]
  | succ n ih =>
    rw [shuffleDist_succ n xs (List.ne_nil_of_length_eq_add_one hlen)]
    refine forall_supp_bind _ _ (List.Perm · xs) ?_
    intro ap hap
    simp only [Dist.uniform, List.mem_map, List.mem_range] at hap
    obtain ⟨i, hi, rfl⟩ := hap
    have hi? : xs[i]? = some xs[i] := List.getElem?_eq_getElem hi
    have hp := dropIdx_perm xs i _ hi?
    simp only [hi?]
    refine forall_supp_bind _ _ (List.Perm · xs) ?_
    intro rq hrq cq hcq
    rw [Dist.pure, List.mem_singleton] at hcq
    subst hcq
    exact ((ih _ (by simpa [hlen] using hp.length_eq) rq hrq).cons _).trans hp

theorem shuffle_mass (n : Nat) (xs : List Cand) (hlen : xs.length = n) : (shuffleDist n xs).mass = 1 :=
  hlen ▸ shuffleDist_mass xs.length xs

/-- **C17 (the contested seat).** Every member of a tied set of `k = n + 1` candidates heads the random order with
probability `1/k`. -/
theorem C17_tiebreak_first (n : Nat) (xs : List Cand) (a : Cand) (hnd : xs.Nodup) (hlen : xs.length = n + 1)
    (ha : a ∈ xs) :
    evProb (shuffleDist (n + 1) xs) (fun σ => decide (σ.head? = some a)) = 1 / ((n + 1 : Nat) : Rat) := by
  rw [shuffle_first_pick n n xs hnd hlen a ha _ 1 0, mul_zero, add_zero]
  · intro ys _ _ _ _
    simp only [List.head?_cons, decide_true]
    rw [← mass_eq_evProb, shuffleDist_mass]
  · intro b ys hb _ _ _
    simp only [List.head?_cons, Option.some.injEq, hb, decide_false, evProb_false]

/-- **C17 (the one eliminated).** Every member of a tied set of `k = n + 1` candidates closes the random order
with probability `1/k`. -/
theorem C17_tiebreak_last (n : Nat) (xs : List Cand) (a : Cand) (hnd : xs.Nodup) (hlen : xs.length = n + 1)
    (ha : a ∈ xs) :
    evProb (shuffleDist (n + 1) xs) (fun σ => decide (σ.getLast? = some a)) = 1 / ((n + 1 : Nat) : Rat) := by
  induction n generalizing xs with
  | zero =>
    rw [shuffle_first_pick 0 0 xs hnd hlen a ha _ 1 0, mul_zero, add_zero]
    · intro ys _ _ _ _
      exact (evProb_pure _ _).trans (if_pos (decide_eq_true rfl))
    · intro b ys hb _ _ _
      rw [shuffleDist, evProb_pure, if_neg]
      simpa using hb
  | succ k ih =>
    rw [shuffle_first_pick (k + 1) (k + 1) xs hnd hlen a ha _ 0 (1 / ((k + 1 : Nat) : Rat)), zero_add,
      mul_one_div_cancel (Nat.cast_ne_zero.2 k.succ_ne_zero)]
    · -- `a` was picked first: the rest is a non-empty order of the others, so `a` is not last
      intro ys _ _ hl hnot
      rw [evProb_congr _ _ (fun _ => false), evProb_false]
      intro e he
      have hpe := shuffle_supp_perm (k + 1) ys hl e he
      cases hr : e.1 with
      | nil =>
        rw [hr, List.nil_perm] at hpe
        rw [hpe] at hl
        cases hl
      | cons y r =>
        rw [List.getLast?_cons_cons, ← hr, decide_eq_false_iff_not]
        exact fun h => hnot (hpe.subset (List.mem_of_getLast? h))
    · -- someone else was picked first: the last of the rest decides
      intro b ys hb hnd' hl hmem
      rw [← ih ys hnd' hl hmem]
      apply evProb_congr
      intro e _
      cases e.1 with
      | nil => simp [hb]
      | cons y r => rw [List.getLast?_cons_cons]

/-- non-vacuity: three tied candidates -/
example : evProb (shuffleDist 3 [0, 1, 2]) (fun σ => decide (σ.getLast? = some 1)) = 1 / 3 := by decide +kernel
example : evProb (shuffleDist 3 [0, 1, 2]) (fun σ => decide (σ.head? = some 2)) = 1 / 3 := by decide +kernel

end VK
