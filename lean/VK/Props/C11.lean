/-
  Property C11 — ballot and profile values condense / compare by content.
  (Immutability and float→Fraction conversion are pydantic/stdlib behaviour, observed by Python-side
  monitors; they are not theorems.)
-/
import VK.Lemmas.Condense
import Mathlib.Algebra.BigOperators.Group.List.Lemmas

namespace VK

/-- Condensed ballots are pairwise distinct in (ranking, scores). -/
theorem C11_condense_distinct (bs : List Ballot) : ((condense bs).map Ballot.content).Nodup :=
  condense_contents_nodup bs

theorem C11_condense_wt (bs : List Ballot) (k : Content) : wt (condense bs) k = wt bs k :=
  wt_condense bs k

theorem C11_condense_total (bs : List Ballot) : totalWeight (condense bs) = totalWeight bs :=
  totalWeight_condense bs

/-- Independent of ballot order (as a weight map). -/
theorem C11_condense_perm_invariant {bs bs' : List Ballot} (h : bs.Perm bs') (k : Content) :
    wt (condense bs) k = wt (condense bs') k := by
  rw [wt_condense, wt_condense, wt_perm h]

theorem accAdd_fresh (k : Content) (w : Rat) (acc : List (Content × Rat)) (h : k ∉ acc.map (·.1)) :
    accAdd k w acc = acc ++ [(k, w)] := by
  induction acc with
  | nil => rfl
  | cons x xs ih =>
    rw [List.map_cons, List.mem_cons, not_or] at h
    rw [accAdd, if_neg (Ne.symm h.1), ih h.2]; rfl

/-- ballots of pairwise different content are accumulated one after the other -/
theorem foldl_accAdd_fresh (bs : List Ballot) (acc : List (Content × Rat))
    (hnd : (bs.map Ballot.content).Nodup)
    (hdisj : ∀ b ∈ bs, b.content ∉ acc.map (·.1)) :
    bs.foldl (fun acc b => accAdd b.content b.weight acc) acc =
      acc ++ bs.map (fun b => (b.content, b.weight)) := by
  induction bs generalizing acc with
  | nil => simp
  | cons b bs ih =>
    rw [List.map_cons, List.nodup_cons] at hnd
    rw [List.foldl_cons, accAdd_fresh _ _ _ (hdisj b List.mem_cons_self), ih _ hnd.2, List.map_cons,
      List.append_assoc, List.singleton_append]
    intro b' hb'
    rw [List.map_append, List.mem_append, not_or]
    refine ⟨hdisj b' (List.mem_cons_of_mem _ hb'), fun e => hnd.1 ?_⟩
    rw [← show b'.content = b.content from List.mem_singleton.1 e]
    exact List.mem_map_of_mem hb'

theorem C11_condense_idem (bs : List Ballot) : condense (condense bs) = condense bs := by
  have := foldl_accAdd_fresh (condense bs) [] (condense_contents_nodup bs) (fun _ _ => List.not_mem_nil)
  unfold condense accumulate at this ⊢
  rw [this]
  simp [List.map_map, Function.comp_def, Ballot.content]

/-- **Two profiles compare equal exactly when they assign the same total weight to every content.** -/
theorem C11_eq_iff (p q : Profile) :
    profEq p q = true ↔ ∀ k, wt p.ballots k = wt q.ballots k := by
  unfold profEq
  simp only [Bool.and_eq_true, List.all_eq_true, decide_eq_true_eq]
  constructor
  · rintro ⟨h1, h2⟩ k
    by_cases hp : k ∈ contents p.ballots
    · exact h1 k hp
    · by_cases hq : k ∈ contents q.ballots
      · exact h2 k hq
      · rw [mem_contents] at hp hq
        rw [wt_zero_of_not_mem _ _ hp, wt_zero_of_not_mem _ _ hq]
  · intro h
    exact ⟨fun k _ => h k, fun k _ => h k⟩

/-- **Adding profiles adds the weights of every content.** -/
theorem C11_add (p q : Profile) (k : Content) :
    wt (profAdd p q).ballots k = wt p.ballots k + wt q.ballots k :=
  wt_append _ _ k

/-- **A candidate list with duplicates is rejected (ValueError); one without is kept as given.** -/
theorem C11_dup_candidates_rejected (bs : List Ballot) (cands : List Cand) :
    (¬ cands.Nodup → mkProfile bs cands = .raised .valueError) ∧
    (cands.Nodup → cands ≠ [] → mkProfile bs cands = .ok { ballots := bs, cands := cands }) := by
  unfold mkProfile
  constructor
  · intro h
    rw [if_pos ((hasDup_iff cands).2 h)]
  · intro h hne
    rw [if_neg (fun hd => (hasDup_iff cands).1 hd h), if_neg (fun he => hne (List.isEmpty_iff.1 he))]

/-- non-vacuity: the F-C11 witness — an unscored and a scored ballot with the same ranking stay apart -/
example : condense [{ ranking := [[0]], weight := 1 }, { ranking := [[0]], weight := 2, scores := [(0, 1)] },
                    { ranking := [[0]], weight := 4 }]
    = [{ ranking := [[0]], weight := 5 }, { ranking := [[0]], weight := 2, scores := [(0, 1)] }] := by
  decide +kernel

end VK
