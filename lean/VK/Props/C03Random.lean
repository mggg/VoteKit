/-
  C03, the random rule as a function (`random_transfer` called directly, Model/Transfers.lean): for every
  ballot list and EVERY sample the model accepts from the oracle, the returned ballots never mention
  the winner, every returned ranking is an input ranking with the winner erased, the sample is a
  sub-collection of the winner's transferable unit ballots (no continuing ranking is taken more often
  than the winner's ballots offer it) and its size is exactly floor(tally) - threshold.
-/
import VK.Props.C03

namespace VK

theorem C03_random_direct (w : Cand) (fpv : Rat) (bs : List Ballot) (q : Int) (keep : List (Ranking × Nat))
    (out : List Ballot) (h : randomTransfer w fpv bs q keep = .ok out) :
    (∀ b ∈ out, w ∉ b.ranking.flatten) ∧
    (∀ b ∈ out, ∃ b0 ∈ bs, b.ranking = removeWinner w b0.ranking ∧
        b.ranking.flatten = b0.ranking.flatten.filter (fun c => c != w)) ∧
    (((keep.map (·.2)).foldl (· + ·) 0 : Nat) : Int) = fpv.floor - q ∧
    (∀ kn ∈ keep, kn.2 ≤ classUnits w bs kn.1 ∧ kn.1 ≠ []) ∧
    (∀ b ∈ bs, b.weight.den = 1) := by
  unfold randomTransfer at h
  simp only [ite_eq_iff, reduceCtorEq, and_false, false_or, Outcome.ok.injEq, Bool.not_eq_true,
    Bool.or_eq_false_iff, decide_eq_false_iff_not, ne_eq, not_not, List.any_eq_false, not_lt, gt_iff_lt,
    List.isEmpty_eq_false_iff] at h
  obtain ⟨⟨hden, -⟩, -, ⟨⟨htotal, hkeep⟩, -⟩, hout⟩ := h
  -- every returned ranking is that of an input ballot with the winner erased: either of a ballot not led by
  -- the winner, or a sampled class, which is non-empty because a positive number of its units was kept
  have hsrc : ∀ b ∈ out, ∃ b0 ∈ bs, b.ranking = removeWinner w b0.ranking := by
    intro b hb
    rw [← hout] at hb
    obtain ⟨b1, hb1, hr, -⟩ := mem_condense_ranking _ b hb
    obtain ⟨hb1m, hb1p⟩ := List.mem_filter.1 hb1
    rcases List.mem_append.1 hb1m with ho | hk
    · obtain ⟨b0, hb0, rfl⟩ := List.mem_map.1 ho
      exact ⟨b0, (List.mem_filter.1 hb0).1, hr.symm⟩
    · obtain ⟨kn, hkn, rfl⟩ := List.mem_map.1 hk
      have hpos : 0 < classUnits w bs kn.1 :=
        lt_of_lt_of_le (Nat.cast_pos.1 (of_decide_eq_true (Bool.and_eq_true_iff.1 hb1p).2)) (hkeep kn hkn).2
      rw [classUnits, ← List.sum_eq_foldl] at hpos
      obtain ⟨x, hx, -⟩ := List.sum_pos_iff_exists_pos_nat.1 hpos
      obtain ⟨b0, hb0, -⟩ := List.mem_map.1 hx
      obtain ⟨hb0m, hb0p⟩ := List.mem_filter.1 hb0
      have hb0r : removeWinner w b0.ranking = kn.1 := eq_of_beq (Bool.and_eq_true_iff.1 hb0p).2
      exact ⟨b0, hb0m, hr.symm.trans hb0r.symm⟩
  refine ⟨fun b hb => ?_, fun b hb => ?_, htotal, fun kn hkn => ⟨(hkeep kn hkn).2, (hkeep kn hkn).1⟩, hden⟩
  · obtain ⟨b0, -, hr⟩ := hsrc b hb
    rw [hr]; exact removeWinner_not_mem w _
  · obtain ⟨b0, hb0, hr⟩ := hsrc b hb
    exact ⟨b0, hb0, hr, by rw [hr, removeWinner_flatten]⟩

end VK
