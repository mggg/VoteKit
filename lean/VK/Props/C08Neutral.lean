/-
  C08, neutrality of the STV family (STV, IRV, SequentialRCV): `stvStep_ren` lifted to the loop and the run, for
  every transfer rule, mode and tiebreak; the instance for a renaming that is not monotone is checked by the kernel.
-/
import VK.Lemmas.RenameSTV
import VK.Model.Rules
namespace VK

def renTrace (π : Cand → Cand) (tr : List (RoundState × CState)) : List (RoundState × CState) :=
  tr.map (fun x => (renRS π x.1, renCS π x.2))

def renResult (π : Cand → Cand) (res : STVResult) : STVResult :=
  { threshold := res.threshold, trace := renTrace π res.trace }

theorem renResult_states (π : Cand → Cand) (res : STVResult) :
    (renResult π res).states = res.states.map (renRS π) := by
  simp only [STVResult.states, renResult, renTrace, List.map_map, Function.comp_def]

theorem stvLoop_ren (π : Cand → Cand) (hπ : Function.Injective π) (cfg : STVCfg) (init : Profile) (q : Int)
    (ω ω' : STVOracle) (hω : RenOracle π ω ω') (fuel : Nat) (S : CState) (prev : RoundState)
    (acc : List (RoundState × CState)) :
    stvLoop cfg (renP π init) q ω' fuel (renCS π S) (renRS π prev) (renTrace π acc) =
      (stvLoop cfg init q ω fuel S prev acc).map (renTrace π) := by
  induction fuel generalizing S prev acc with
  | zero => exact Outcome.ite_map (Outcome.ok_reverse_map _ acc) rfl
  | succ n ih =>
    refine Outcome.ite_map (Outcome.ok_reverse_map _ acc) ?_
    exact Outcome.bind_map_comm _ (stvStep_ren π hπ cfg init q ω ω' hω _ S prev) fun ⟨S', r⟩ _ => ih S' r ((r, S') :: acc)

/-- C08, neutrality of the STV family. For every configuration (quota, transfer rule, simultaneous or one by one,
tiebreak), every profile and every oracle value: running the count on the renamed profile with the renamed oracle
gives exactly the renamed run - same threshold, same number of rounds, each round's groups, tiebreak records and
tallies renamed, the profile held after each round renamed - or the same exception. -/
theorem C08_stv_neutral (π : Cand → Cand) (hπ : Function.Injective π) (cfg : STVCfg) (p : Profile)
    (ω ω' : STVOracle) (hω : RenOracle π ω ω') (quotaOk : Bool) :
    stvRun cfg (renP π p) ω' quotaOk = (stvRun cfg p ω quotaOk).map (renResult π) := by
  unfold stvRun
  rw [stvValidProfile_ren, total_ren, renP_cands, List.length_map]
  refine Outcome.ite_map rfl (Outcome.ite_map rfl (Outcome.ite_map rfl ?_))
  refine Outcome.bind_map_comm _ (firstPlaceVotes_ren π hπ p) fun sc0 _ => ?_
  rw [stvInitState_ren, initialState_ren]
  exact Outcome.bind_map_comm _ (stvLoop_ren π hπ cfg p _ ω ω' hω _ _ _ [(_, _)]) fun tr _ => rfl

theorem C08_stv_neutral_states (π : Cand → Cand) (hπ : Function.Injective π) (cfg : STVCfg) (p : Profile)
    (ω ω' : STVOracle) (hω : RenOracle π ω ω') (res : STVResult) (h : stvRun cfg p ω = .ok res) :
    ∃ res', stvRun cfg (renP π p) ω' = .ok res' ∧ res'.states = res.states.map (renRS π) ∧
      res'.threshold = res.threshold ∧ res'.profiles = res.profiles.map (renP π) := by
  refine ⟨renResult π res, ?_, ?_, rfl, ?_⟩
  · rw [C08_stv_neutral π hπ cfg p ω ω' hω, h]; rfl
  · exact renResult_states π res
  · simp only [STVResult.profiles, renResult, renTrace, List.map_map, Function.comp_def]
    apply List.map_congr_left; intro x _
    exact currentProfile_ren π hπ x.2

theorem C08_irv_neutral (π : Cand → Cand) (hπ : Function.Injective π) (p : Profile) (quota : Quota) (tb : Option TB)
    (ω ω' : STVOracle) (hω : RenOracle π ω ω') (quotaOk : Bool) :
    irvRun (renP π p) quota tb ω' quotaOk = (irvRun p quota tb ω quotaOk).map (renResult π) :=
  C08_stv_neutral π hπ _ p ω ω' hω quotaOk

theorem C08_seqrcv_neutral (π : Cand → Cand) (hπ : Function.Injective π) (cfg : STVCfg) (p : Profile)
    (ω ω' : STVOracle) (hω : RenOracle π ω ω') (quotaOk : Bool) :
    seqRCVRun cfg (renP π p) ω' quotaOk = (seqRCVRun cfg p ω quotaOk).map (renResult π) :=
  C08_stv_neutral π hπ _ p ω ω' hω quotaOk

/-- the renamed oracle of `ω`, given a left inverse `σ` of the renaming (any permutation of the indices has one) -/
theorem renOracle_exists (π σ : Cand → Cand) (hσ : ∀ c, σ (π c) = c) (ω : STVOracle) :
    RenOracle π ω { pri := fun r => (ω.pri r).map π, sample := fun r c => renNeed π (ω.sample r (σ c)) } :=
  ⟨fun _ => rfl, fun r c => by simp only [hσ]⟩

/-- a renaming that is not monotone, for the instance below -/
def swap02 (c : Cand) : Cand := if c = 0 then 2 else if c = 2 then 0 else c

theorem swap02_invol (c : Nat) : swap02 (swap02 c) = c := by
  by_cases h0 : c = 0
  · subst h0; rfl
  · by_cases h2 : c = 2
    · subst h2; rfl
    · simp only [swap02, h0, h2, if_false]

theorem swap02_inj : Function.Injective swap02 := Function.LeftInverse.injective swap02_invol

def neutralDemo : Profile :=
  { ballots := [⟨[[0], [1]], 4, []⟩, ⟨[[1], [2]], 3, []⟩, ⟨[[2], [1]], 2, []⟩], cands := [0, 1, 2] }

example : (stvRun { m := 1 } neutralDemo {}).isOk = true := by decide +kernel
example : ((stvRun { m := 1 } neutralDemo {}).map (fun r => r.states.length)) = .ok 3 := by decide +kernel
example : stvRun { m := 1 } (renP swap02 neutralDemo) {} = (stvRun { m := 1 } neutralDemo {}).map (renResult swap02) :=
  C08_stv_neutral swap02 swap02_inj _ _ {} {} ⟨fun _ => rfl, fun _ _ => rfl⟩ true
end VK
