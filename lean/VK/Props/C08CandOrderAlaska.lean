/-
  C08, "listing the candidates in a different order", Alaska (fractional or full-weight transfer): the finalists'
  stage is a single-round count, the second stage is the STV count on the finalists' profile; every state of an STV
  count mentions declared candidates only (`stvRun_mentions`), so re-listing in the order of the finalists' sublist
  and in the order of the full list agree.
-/
import VK.Props.C08CandOrderTopTwo
import VK.Props.C08CandOrderSTV
namespace VK

theorem C08_alaska_cand_order (p : Profile) (c' : List Cand) (hperm : c'.Perm p.cands) (hN : p.cands.Nodup)
    (m1 m2 : Int) (cfg : STVCfg) (hnr : cfg.transfer ≠ .random) (ω : STVOracle) (quotaOk : Bool) :
    alaskaRun (withCands p c') m1 m2 cfg ω quotaOk = (alaskaRun p m1 m2 cfg ω quotaOk).map (reStates c') := by
  unfold alaskaRun
  refine Outcome.ite_map rfl (Outcome.ite_map rfl ?_)
  refine Outcome.bind_map_comm _ (finalistStage_re p c' hperm hN _ _ _) fun x hfs => ?_
  obtain ⟨hperm2, hN2, hre⟩ := finalists_re hperm hN hfs
  refine Outcome.bind_map_comm _ (C08_stv_cand_order { cfg with m := m2.toNat } hnr x.2.2 _ hperm2 hN2 _ quotaOk)
    fun res hst => ?_
  -- the rounds of the second stage mention finalists only, so `hre` applies to each
  have hment := stvRun_mentions _ x.2.2 _ quotaOk hN2 res hst
  simp only [Outcome.pure_eq, Outcome.map_ok, reStates, List.map_cons, reResult_states, List.map_drop, List.map_map]
  refine congrArg (fun l => Outcome.ok (_ :: _ :: List.drop 1 l)) (List.map_congr_left fun s hs => ?_)
  simp only [Function.comp, hre s (hment s hs)]
  rfl

end VK
