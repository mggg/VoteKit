/-
  `expand_tied_ballot` divides the weight by k! once per tied group; dividing
  successively by the source's share is the model's single division by the product of the factorials
  (`tieDivisor`, C12's expansion theorems).
-/
import VK.Model.Generated.Expand
import VK.Model.Utils
import VK.Lemmas.Sum
import Mathlib.Algebra.Order.Field.Rat

namespace VK

theorem gfact_eq (n : Nat) : Generated.gfact n = fact n := by
  induction n with
  | zero => rfl
  | succ n ih => simp [Generated.gfact, fact, ih]

/-- applying the source's share once per position of the ranking gives the model's weight of one
linear order: `w / prod(k_i!)` -/
theorem kernel_expand_share (r : Ranking) (w : Rat) :
    r.foldl (fun acc s => Generated.expandShare acc s.length) w = w / (tieDivisor r : Rat) := by
  induction r generalizing w with
  | nil => simp [tieDivisor]
  | cons s rest ih =>
    rw [List.foldl_cons, ih, tieDivisor_cons]
    unfold Generated.expandShare
    rw [gfact_eq]
    push_cast
    rw [div_div]

end VK
