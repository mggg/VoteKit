/-
  Property C04 (second part) — Plurality, SNTV, Borda (and every rule that elects through
  `elect_cands_from_set_ranking`, in particular the score rules of C05) elect m candidates none of
  whom has a lower score than any non-elected candidate; candidates of equal score are reported as
  one tied group, groups in strictly descending score order.
-/
import VK.Props.C04
import VK.Lemmas.PSC
import VK.Model.Rules
import VK.Lemmas.Outcome

namespace VK

/-- candidates are reported in groups of strictly descending score -/
theorem scoreToRanking_descending (sc : List (Cand × Rat)) (hk : (sc.map (·.1)).Nodup) :
    (scoreToRanking sc).Pairwise (fun g g' => ∀ a ∈ g, ∀ b ∈ g', lookupScore sc b < lookupScore sc a) := by
  rw [scoreToRanking_eq, List.pairwise_map]
  refine (distinctDesc_sorted _).imp fun hgt a ha b hb => ?_
  rwa [lookupScore_groupOf hk ha, lookupScore_groupOf hk hb]

theorem scoreToRanking_group_equal (sc : List (Cand × Rat)) (hk : (sc.map (·.1)).Nodup) (g : List Cand)
    (hg : g ∈ scoreToRanking sc) : ∀ a ∈ g, ∀ b ∈ g, lookupScore sc a = lookupScore sc b := by
  rw [scoreToRanking_eq] at hg
  obtain ⟨v, -, rfl⟩ := List.mem_map.1 hg
  intro a ha b hb
  rw [lookupScore_groupOf hk ha, lookupScore_groupOf hk hb]

/-- **Top m.** Whoever `elect_cands_from_set_ranking` elects from the ranking of a score table has a
score at least as high as everybody it leaves, exactly `m` are elected, and the elected and
remaining candidates together are all the scored candidates. -/
theorem C04_elect_top (pri : List Cand) (sc : List (Cand × Rat)) (m : Nat) (prof : Option Profile)
    (tb : Option TB) (r : ElectResult) (hk : (sc.map (·.1)).Nodup)
    (hsub : ∀ p, prof = some p → p.cands.Nodup ∧ ∀ g ∈ scoreToRanking sc, ∀ c ∈ g, c ∈ p.cands)
    (h : electFromRanking pri (scoreToRanking sc) m prof tb = .ok r) :
    r.elected.flatten.length = m ∧
    (r.elected.flatten ++ r.remaining.flatten).Perm (sc.map (·.1)) ∧
    ∀ e ∈ r.elected.flatten, ∀ l ∈ r.remaining.flatten, lookupScore sc l ≤ lookupScore sc e := by
  have hnd : ∀ g ∈ scoreToRanking sc, g.Nodup := scoreToRanking_groups_nodup sc hk
  obtain ⟨hcount, hperm⟩ := electFromRanking_count pri _ m prof tb r hnd hsub h
  exact ⟨hcount, hperm.trans (scoreToRanking_perm sc),
    electFromRanking_sorted (fun a b => lookupScore sc b ≤ lookupScore sc a) pri _ m prof tb r
      ((scoreToRanking_descending sc hk).imp fun h a ha b hb => (h a ha b hb).le)
      (fun g hg a ha b hb => (scoreToRanking_group_equal sc hk g hg a ha b hb).ge) hnd hsub h⟩

/-- Plurality / SNTV / Borda: the winners have the top scores of the round-0 tally -/
theorem C04_topM_winners_have_top_scores (p : Profile) (m : Nat) (tb : Option TB) (pri : List Cand)
    (score : Profile → Outcome (List (Cand × Rat))) (st : States) (hc : p.cands.Nodup)
    (hkeys : ∀ sc, score p = .ok sc → sc.map (·.1) = p.cands)
    (h : topMRun p m tb pri score = .ok st) :
    ∃ sc0 s1, score p = .ok sc0 ∧ st.getLast? = some s1 ∧
      ∀ e ∈ s1.elected.flatten, ∀ l ∈ s1.remaining.flatten, lookupScore sc0 l ≤ lookupScore sc0 e := by
  obtain ⟨sc0, r, sc1, h0, h1, -, rfl⟩ := topMRun_ok p m tb pri score st h
  have hk := hkeys sc0 h0
  exact ⟨sc0, _, h0, rfl, (C04_elect_top pri sc0 m (some p) tb r (hk ▸ hc)
    (ranking_side hc (scoreToRanking_perm_keys hk) (List.Sublist.refl _)).2 h1).2.2⟩

end VK
