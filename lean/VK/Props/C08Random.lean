/-
  C08 for the STV family under the random (whole-ballot) transfer. The sample oracle names how many votes of each
  continuing ranking are kept, so it does not see the representation either.
-/
import VK.Props.C08
import VK.Lemmas.LinEqOn

namespace VK

theorem stvLoop_random_on (cfg : STVCfg) (init init' : Profile) (q : Int) (ω : STVOracle)
    (hr : cfg.transfer = .random) (hcfg : ProfileFreeChoice cfg)
    (hinit : firstPlaceVotes init = firstPlaceVotes init')
    (fuel : Nat) (S S2 : CState) (prev : RoundState) (acc acc2 : List (RoundState × CState))
    (hS : SameCountOn S S2) (hacc : acc.map (·.1) = acc2.map (·.1)) :
    RelTrace (stvLoop cfg init q ω fuel S prev acc) (stvLoop cfg init' q ω fuel S2 prev acc2) :=
  (relTrace_iff _ _).2 <| (blind_goodPair hr).loop hcfg q ω hinit fuel hacc (sameCountOn_iff.1 hS)

/-- Two profiles of untied ranked ballots with whole non-negative weights and no repeated candidate over the same
candidates that give every ranking the same total weight (a reordering, a split of a ballot into identical ballots
with whole weights, a merge) have, under the same tiebreak and sample oracle, the same threshold and exactly the
same rounds, or fail in the same way. As for the full-weight transfer: simultaneous election with any tiebreak,
one-by-one election with tiebreak `None` or `random` (`hcfg`). -/
theorem C08_stv_representation_invariant_random (cfg : STVCfg) (p p' : Profile) (ω : STVOracle)
    (hr : cfg.transfer = .random) (hcfg : ProfileFreeChoice cfg) (hc : p.cands = p'.cands)
    (hle : LinEq (stvInitState p).bs (stvInitState p').bs)
    (hint : ∀ b ∈ p.ballots, isIntRat b.weight = true ∧ 0 ≤ b.weight)
    (hint' : ∀ b ∈ p'.ballots, isIntRat b.weight = true ∧ 0 ≤ b.weight)
    (hnd : ∀ b ∈ p.ballots, b.ranking.flatten.Nodup) (hnd' : ∀ b ∈ p'.ballots, b.ranking.flatten.Nodup)
    (hne : ∀ b ∈ p.ballots, b.ranking ≠ []) (hsingle : ∀ b ∈ p.ballots, ∀ s ∈ b.ranking, s.length = 1)
    (hcast : ∀ b ∈ p.ballots, ∀ c ∈ b.ranking.flatten, c ∈ p.cands)
    (hne' : ∀ b ∈ p'.ballots, b.ranking ≠ []) (hsingle' : ∀ b ∈ p'.ballots, ∀ s ∈ b.ranking, s.length = 1)
    (hcast' : ∀ b ∈ p'.ballots, ∀ c ∈ b.ranking.flatten, c ∈ p'.cands) :
    RelResult (stvRun cfg p ω) (stvRun cfg p' ω) := by
  refine stvRun_rel cfg p p' ω hc hle (fun hinit => ?_) hne hsingle hcast hne' hsingle' hcast'
  have hS0 : SameCountOn (stvInitState p) (stvInitState p') :=
    ⟨hc, rfl, hle.on _, List.forall_mem_map.2 hint, List.forall_mem_map.2 hint', List.forall_mem_map.2 hnd,
      List.forall_mem_map.2 hnd'⟩
  exact stvLoop_random_on cfg p p' _ ω hr hcfg hinit _ _ _ (round0 p) _ _ hS0 rfl

/-- the hypotheses can be met: A>B x2, B x1 against the same votes with the first ballot split 1 + 1 -/
example : RelResult
    (stvRun { m := 1, transfer := .random }
      { ballots := [⟨[[0], [1]], 1 + 1, []⟩, ⟨[[1]], 1, []⟩], cands := [0, 1] } {})
    (stvRun { m := 1, transfer := .random }
      { ballots := [⟨[[0], [1]], 1, []⟩, ⟨[[0], [1]], 1, []⟩, ⟨[[1]], 1, []⟩], cands := [0, 1] } {}) := by
  apply C08_stv_representation_invariant_random
  · rfl
  · exact Or.inl rfl
  · rfl
  · exact C08_stv_ballot_split [0, 1] [[0], [1]] 1 1 [⟨[[1]], 1, []⟩]
  all_goals decide +kernel

end VK
