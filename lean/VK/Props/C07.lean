/-
  Property C07 — STV meets Droop proportionality for solid coalitions (IRV majority criterion):
  `C07_droop_psc` (every profile of untied ranked ballots, every candidate subset, `k`, seat count, mode,
  fractional or random transfer, tiebreak and oracle value) and its corollary `C07_irv_majority`.
  The proof is an invariant over the count: `psc_step` / `psc_loop` / `psc_final`. Two of the property's facts
  are stated where their other users reach them: `C07_threshold_pos` with the quota facts in `Props/C02`,
  `C07_fractional_keeps_quota` in `Lemmas/PSC`.
-/
import VK.Props.C02
import VK.Lemmas.RandomTransfer
import VK.Lemmas.FpvLink
import VK.Model.Rules
import Mathlib.Algebra.Order.BigOperators.Group.List

namespace VK

/-- a ballot is solid for `S` when its first `|S|` entries are exactly the members of `S` -/
def Solid (S : List Cand) (r : List Cand) : Prop :=
  S.length ≤ r.length ∧ ∀ c, c ∈ r.take S.length ↔ c ∈ S

def solidB (S : List Cand) (r : List Cand) : Bool :=
  decide (S.length ≤ r.length) && (r.take S.length).all (fun c => S.contains c) &&
    S.all (fun c => (r.take S.length).contains c)

theorem solidB_iff (S r : List Cand) : solidB S r = true ↔ Solid S r := by
  unfold solidB Solid
  simp only [Bool.and_eq_true, decide_eq_true_eq, List.all_eq_true, List.contains_iff_mem]
  constructor
  · rintro ⟨⟨h1, h2⟩, h3⟩
    exact ⟨h1, fun c => ⟨h2 c, h3 c⟩⟩
  · rintro ⟨h1, h2⟩
    exact ⟨⟨h1, fun c hc => (h2 c).1 hc⟩, fun c hc => (h2 c).2 hc⟩

/-- The property for the fractional transfer without side conditions on the profile. Not proved in this form:
`C07_DroopPSC_holds_for_untied_profiles` has the same text with the conditions of `C07_droop_psc` added. -/
def DroopPSC : Prop :=
  ∀ (cfg : STVCfg) (p : Profile) (ω : STVOracle) (res : STVResult) (S : List Cand) (k : Nat),
    cfg.quota = .droop → cfg.transfer = .fractional → S.Nodup → (∀ c ∈ S, c ∈ p.cands) →
    (∀ b ∈ p.ballots, 0 < b.weight) →
    stvRun cfg p ω = .ok res →
    (k : Rat) * (res.threshold : Rat) ≤
      rsum ((p.ballots.filter (fun b => solidB S b.ranking.flatten)).map (·.weight)) →
    min k (min S.length cfg.m) ≤ ((electedOf res.states).filter (fun c => S.contains c)).length

/-- `m + 1` Droop thresholds exceed the total weight -/
theorem C07_droop_quota_bound (m : Nat) (N : Rat) :
    N < ((m : Rat) + 1) * (threshold .droop m N : Rat) :=
  (div_lt_iff₀' (Nat.cast_add_one_pos m)).1 (C02_droop_bounds m N).1

/-- While some member of `S` is hopeful, a ballot solid for `S` counts for a member of `S`. -/
theorem C07_solid_top_in_S (S hopeful r : List Cand) (hs : Solid S r) (hh : ∃ c ∈ S, c ∈ hopeful) :
    ∃ c, topOf hopeful r = some c ∧ c ∈ S := by
  obtain ⟨c0, hc0S, hc0h⟩ := hh
  unfold topOf
  have hsplit : r = r.take S.length ++ r.drop S.length := (List.take_append_drop _ _).symm
  rw [hsplit, List.find?_append]
  have hc0r : c0 ∈ r.take S.length := (hs.2 c0).2 hc0S
  have : ∃ c, (r.take S.length).find? (fun c => hopeful.contains c) = some c := by
    cases hf : (r.take S.length).find? (fun c => hopeful.contains c) with
    | some c => exact ⟨c, rfl⟩
    | none =>
      rw [List.find?_eq_none] at hf
      exact absurd (by simpa using hc0h) (hf c0 hc0r)
  obtain ⟨c, hc⟩ := this
  refine ⟨c, by rw [hc]; rfl, ?_⟩
  exact (hs.2 c).1 (List.mem_of_find?_eq_some hc)

/-- Pigeonhole: if `1 ≤ |H| ≤ d` hopeful members share at least `d` quotas, one of them has a
quota — so no member of a coalition that still holds its quotas can be eliminated. -/
theorem C07_pigeonhole {α : Type} (H : List α) (t : α → Rat) (q : Rat) (d : Nat)
    (hq : 0 ≤ q) (hne : H ≠ []) (hlen : H.length ≤ d) (hsum : (d : Rat) * q ≤ (H.map t).sum) :
    ∃ c ∈ H, q ≤ t c := by
  by_contra hcon
  have hlt : (H.map t).sum < (H.map (fun _ => q)).sum :=
    List.sum_lt_sum_of_ne_nil hne _ _ fun c hc => lt_of_not_ge fun h => hcon ⟨c, hc, h⟩
  rw [List.map_const', List.sum_replicate, nsmul_eq_mul] at hlt
  have hle : (H.length : Rat) * q ≤ (d : Rat) * q := mul_le_mul_of_nonneg_right (Nat.cast_le.2 hlen) hq
  linarith only [hlt, hle, hsum]

/-- No over-filling under Droop: if `j` candidates each hold a quota out of an active weight
`A ≤ N - e·q`, then `j ≤ m - e` — a simultaneous step can never elect more candidates than seats
remain. -/
theorem C07_no_overfill (m e j : Nat) (N A q : Rat) (hq : 0 < q) (hN : N < ((m : Rat) + 1) * q)
    (hA : A ≤ N - (e : Rat) * q) (hj : (j : Rat) * q ≤ A) : e + j ≤ m := by
  have h1 : ((e + j : Nat) : Rat) * q < ((m + 1 : Nat) : Rat) * q := by
    rw [Nat.cast_add, Nat.cast_add, Nat.cast_one]; linarith only [hN, hA, hj]
  exact Nat.lt_succ_iff.1 (Nat.cast_lt.1 (lt_of_mul_lt_mul_right h1 hq.le))

/-- IRV majority at the level of the step: a candidate whose first-place tally reaches the
threshold is among the candidates the quota test selects. -/
theorem C07_majority_selected (scores : List (Cand × Rat)) (q : Int) (c : Cand) (v : Rat)
    (hc : (c, v) ∈ scores) (hv : (q : Rat) ≤ v) :
    (c, v) ∈ scores.filter (fun cs => decide ((q : Rat) ≤ cs.2)) := by
  simp [List.mem_filter, hc, hv]

/-! `Sset` is the coalition, `HS` its members still hopeful, `jS` the number of its members elected so far,
`kwS` the current weight of the ballots solid for it. -/

def HS (Sset : List Cand) (S : CState) : List Cand := S.hopeful.filter (fun c => Sset.contains c)
def jS (Sset : List Cand) (recs : List RoundState) : Nat := ((electedIn recs).filter (fun c => Sset.contains c)).length
def kwS (Sset : List Cand) (bs : List PBallot) : Rat := wsum (fun b => solidB Sset b.1) bs

structure PscInv (cands Sset : List Cand) (k : Nat) (q : Int) (N : Rat)
    (S : CState) (prev : RoundState) (recs : List RoundState) : Prop where
  inv : StvInv cands S prev recs
  link : Linked S prev
  nn : ∀ b ∈ S.bs, 0 ≤ b.2
  /-- while a member of the coalition is hopeful, the coalition still holds `k − j` quotas -/
  kw : HS Sset S ≠ [] → (k : Rat) * q ≤ kwS Sset S.bs + (jS Sset recs : Rat) * q
  /-- elected plus hopeful members never drop below `min k |S|` -/
  cnt : min k Sset.length ≤ jS Sset recs + (HS Sset S).length
  /-- every seat filled by the quota test has consumed a quota -/
  acc : S.hopeful = [] ∨ active S.bs S.hopeful + (S.nElected : Rat) * q ≤ N

theorem solid_top_in_HS (Sset : List Cand) (S : CState) (r : List Cand) (hs : solidB Sset r = true)
    (hne : HS Sset S ≠ []) : ∃ c, topOf S.hopeful r = some c ∧ c ∈ HS Sset S := by
  obtain ⟨c0, hc0⟩ := List.exists_mem_of_ne_nil _ hne
  have hc0' := List.mem_filter.1 hc0
  obtain ⟨c, hc, hcS⟩ := C07_solid_top_in_S Sset S.hopeful r ((solidB_iff _ _).1 hs)
    ⟨c0, by simpa using hc0'.2, hc0'.1⟩
  exact ⟨c, hc, List.mem_filter.2 ⟨topOf_mem_hopeful _ _ _ hc, by simpa using hcS⟩⟩

theorem jS_cons (Sset : List Cand) (r : RoundState) (recs : List RoundState) :
    jS Sset (r :: recs) = jS Sset recs + (r.elected.flatten.filter (fun c => Sset.contains c)).length := by
  unfold jS
  rw [electedIn_cons, List.filter_append, List.length_append, Nat.add_comm]

/-- while a member of the coalition is hopeful, a candidate outside it leads no solid ballot -/
theorem solid_led_outside (Sset : List Cand) (S : CState) (w : Cand) (hne : HS Sset S ≠ [])
    (hw : Sset.contains w = false) :
    wsum (fun b => solidB Sset b.1 && decide (topOf S.hopeful b.1 = some w)) S.bs = 0 := by
  refine wsum_false _ _ fun b _ => ?_
  cases hs : solidB Sset b.1 with
  | false => rfl
  | true =>
    obtain ⟨c', hc', hcHS⟩ := solid_top_in_HS Sset S b.1 hs hne
    have : c' ≠ w := fun e => Bool.false_ne_true (hw.symm.trans (e ▸ (List.mem_filter.1 hcHS).2))
    rw [hc', Bool.true_and, decide_eq_false_iff_not, Option.some.injEq]
    exact this

/-- a solid ballot ranks every member of the coalition, so it continues past a winner `w` as long
as another member is hopeful -/
theorem solid_continues (Sset hop r : List Cand) (w c0 : Cand) (hs : solidB Sset r = true)
    (hc0S : c0 ∈ Sset) (hc0h : c0 ∈ hop) (hc0w : c0 ≠ w) : (contRanking hop w r).isEmpty = false := by
  have hc0r : c0 ∈ r := List.mem_of_mem_take ((((solidB_iff _ _).1 hs).2 c0).2 hc0S)
  have : c0 ∈ contRanking hop w r :=
    List.mem_filter.2 ⟨hc0r, by rw [Bool.and_eq_true, List.contains_iff_mem, bne_iff_ne]; exact ⟨hc0h, hc0w⟩⟩
  cases hcr : contRanking hop w r with
  | nil => rw [hcr] at this; cases this
  | cons _ _ => rfl

/-- the weight of the solid ballots sits on the hopeful members while one exists -/
theorem kwS_le_tallies (Sset : List Cand) (S : CState) (hnn : ∀ b ∈ S.bs, 0 ≤ b.2) (hn : S.hopeful.Nodup)
    (hne : HS Sset S ≠ []) :
    kwS Sset S.bs ≤ rsum ((HS Sset S).map (fun c => tally S.bs S.hopeful c)) := by
  rw [sum_tally_subset S.bs S.hopeful (HS Sset S) (hn.filter _)]
  refine wsum_le_of_imp _ _ S.bs hnn fun b _ hb => ?_
  obtain ⟨c', hc', hcHS⟩ := solid_top_in_HS Sset S b.1 hb hne
  simp only [hc']
  exact List.contains_iff_mem.2 hcHS

theorem kwS_le_active (Sset : List Cand) (S : CState) (hnn : ∀ b ∈ S.bs, 0 ≤ b.2) (hne : HS Sset S ≠ []) :
    kwS Sset S.bs ≤ active S.bs S.hopeful := by
  refine wsum_le_of_imp _ _ S.bs hnn fun b _ hb => ?_
  obtain ⟨c', hc', _⟩ := solid_top_in_HS Sset S b.1 hb hne
  unfold isActive
  rw [hc']; rfl

/-- While nobody is at the threshold, a coalition with a hopeful member has more members elected or hopeful
than `min k |S|`: otherwise its hopeful members would share at least as many quotas as they are, and one of them
would hold one. So eliminating a member cannot break `cnt`. -/
theorem PscInv.spare {cands Sset : List Cand} {k : Nat} {q : Int} {N : Rat} {S : CState} {prev : RoundState}
    {recs : List RoundState} (P : PscInv cands Sset k q N S prev recs) (hq : 0 < q) (hne : HS Sset S ≠ [])
    (hbelow : (prev.scores.filter (fun cs => decide ((q : Rat) ≤ cs.2))).isEmpty = true) :
    min k Sset.length < jS Sset recs + (HS Sset S).length := by
  have hqr : (0 : Rat) < (q : Rat) := Int.cast_pos.2 hq
  refine lt_of_not_ge fun hcon => ?_
  have hle : (jS Sset recs : Rat) + ((HS Sset S).length : Rat) ≤ (k : Rat) := by
    exact_mod_cast le_trans hcon (min_le_left _ _)
  have hmul := mul_le_mul_of_nonneg_right hle hqr.le
  have hsum := kwS_le_tallies Sset S P.nn P.inv.hop_nodup hne
  obtain ⟨c', hc'H, hc'q⟩ := C07_pigeonhole (HS Sset S) (fun c => tally S.bs S.hopeful c) (q : Rat)
    (HS Sset S).length hqr.le hne (le_refl _) (by rw [← rsum_eq_sum]; linarith only [P.kw hne, hmul, hsum])
  exact Bool.false_ne_true (((above_iff S prev q P.link).2
    ⟨c', (List.mem_filter.1 hc'H).1, hc'q⟩).symm.trans hbelow)

theorem psc_step (cfg : STVCfg) (init : Profile) (q : Int) (ω : STVOracle) (rnd : Nat) (Sset : List Cand)
    (k : Nat) (N : Rat) (S S' : CState) (prev r : RoundState) (recs : List RoundState)
    (hT : GoodTransfers cfg) (hq : 0 < q) (hi : init.cands.Nodup)
    (hcs : ∀ c ∈ S.hopeful, c ∈ init.cands)
    (P : PscInv init.cands Sset k q N S prev recs)
    (h : stvStep cfg init q ω rnd S prev = .ok (S', r)) :
    PscInv init.cands Sset k q N S' r (r :: recs) := by
  obtain ⟨inv', hsub', _⟩ := stvStep_keeps hi P.inv h
  have link' := stvStep_linked cfg init q ω rnd S S' prev r h
  have hne_of : HS Sset S' ≠ [] → HS Sset S ≠ [] := by
    intro hne'
    obtain ⟨c0, hc0⟩ := List.exists_mem_of_ne_nil _ hne'
    exact List.ne_nil_of_mem (List.mem_filter.2 ⟨hsub' c0 (List.mem_filter.1 hc0).1, (List.mem_filter.1 hc0).2⟩)
  have hacc : S.hopeful = [] → S'.hopeful = [] := fun h0 =>
    List.eq_nil_iff_forall_not_mem.2 fun c hc => List.not_mem_nil (h0 ▸ hsub' c hc)
  rcases stvStep_cases cfg init q ω rnd S S' prev r h with
    ⟨g, tbs, bs', habove, he, ha, hSb, hSh, hSn, hre, hrx, _⟩ |
    ⟨_, hSh, hSb, hSn, _, _, hre, hrx, _⟩ |
    ⟨habove, lowest, c, tbs, hlast, hlc, hSb, hSh, hSn, hre, hrx⟩
  · -- election round
    obtain ⟨hWn, hWs⟩ := electChoice_spec cfg q ω rnd S prev g tbs P.inv.hop_nodup P.inv.rem he
    have hge := electChoice_ge cfg q ω rnd S prev g tbs P.link P.inv.hop_nodup habove he
    obtain ⟨hnn', hact⟩ := hT.elected hq P.inv P.link P.nn habove he ha
    have hjS : jS Sset (r :: recs) = jS Sset recs + (g.flatten.filter (fun c => Sset.contains c)).length := by
      rw [← hre]; exact jS_cons Sset r recs
    have hHSlen : (g.flatten.filter (fun c => Sset.contains c)).length + (HS Sset S').length =
        (HS Sset S).length := by
      have := ((filter_not_contains_perm S.hopeful g.flatten P.inv.hop_nodup hWn hWs).filter
        (fun c => Sset.contains c)).length_eq
      rw [List.filter_append, List.length_append, Nat.add_comm] at this
      unfold HS; rw [hSh]; exact this
    refine ⟨inv', link', hSb ▸ hnn', fun hne' => ?_, by rw [hjS, Nat.add_assoc, hHSlen]; exact P.cnt, ?_⟩
    · -- the coalition loses at most a threshold per elected member, and nothing to other winners
      have hne := hne_of hne'
      obtain ⟨c0, hc0⟩ := List.exists_mem_of_ne_nil _ hne'
      obtain ⟨hc0h, hc0S⟩ := List.mem_filter.1 hc0
      rw [hSh] at hc0h
      obtain ⟨hc0hop, hc0nw⟩ := List.mem_filter.1 hc0h
      have hc0W : c0 ∉ g.flatten := fun hm => by
        rw [List.contains_iff_mem.2 hm] at hc0nw; cases hc0nw
      have hco := (hT S.hopeful q (ω.sample rnd) (fun r => solidB Sset r) (fun c => Sset.contains c)
        g.flatten S.bs bs' hq P.nn hWn hge (fun w _ hw => solid_led_outside Sset S w hne hw)
        (fun w hw _ r hs _ => solid_continues Sset S.hopeful r w c0 hs (List.contains_iff_mem.1 hc0S) hc0hop
          fun e => hc0W (e ▸ hw)) ha).2.1
      have h0 := P.kw hne
      unfold kwS at h0 ⊢
      rw [hSb, hjS]
      push_cast
      linarith only [h0, hco]
    · refine P.acc.imp hacc fun h0 => ?_
      have := active_anti bs' S.hopeful S'.hopeful hsub' hnn'
      rw [hSb, hSn]
      push_cast
      linarith only [h0, hact, this]
  · -- the remaining candidates fill the seats
    have hHS' : HS Sset S' = [] := by unfold HS; rw [hSh]; rfl
    refine ⟨inv', link', fun b hb => ?_, fun hne => absurd hHS' hne, ?_, Or.inl hSh⟩
    · rw [hSb] at hb
      obtain ⟨b0, _, rfl⟩ := List.mem_map.1 hb
      exact le_refl _
    · have hjS : jS Sset (r :: recs) = jS Sset recs + (HS Sset S).length := by
        rw [jS_cons, hre, (P.inv.rem.filter _).length_eq]; rfl
      rw [hjS, hHS']; exact P.cnt
  · -- elimination round
    have hjS : jS Sset (r :: recs) = jS Sset recs := by rw [jS_cons, hre]; rfl
    have hHS' : HS Sset S' = (HS Sset S).filter (fun x => x != c) := by
      unfold HS; rw [hSh, List.filter_filter, List.filter_filter]
      exact List.filter_congr fun x _ => Bool.and_comm _ _
    have hlen := filter_ne_length (HS Sset S) c (P.inv.hop_nodup.filter _)
    refine ⟨inv', link', hSb ▸ P.nn, fun hne' => by rw [hSb, hjS]; exact P.kw (hne_of hne'), ?_, ?_⟩
    · rw [hjS, hHS']
      by_cases hcH : c ∈ HS Sset S
      · have := P.spare hq (List.ne_nil_of_mem hcH) habove
        rw [if_pos hcH] at hlen
        rw [← hlen, ← Nat.add_assoc] at this
        exact Nat.le_of_lt_succ this
      · rw [if_neg hcH, Nat.add_zero] at hlen
        rw [hlen]; exact P.cnt
    · refine P.acc.imp hacc fun h0 => ?_
      rw [hSb, hSn]
      exact le_trans (add_le_add_left (active_anti S.bs S.hopeful S'.hopeful hsub' P.nn) _) h0

theorem psc_loop (cfg : STVCfg) (init : Profile) (q : Int) (ω : STVOracle) (Sset : List Cand) (k : Nat) (N : Rat)
    (hT : GoodTransfers cfg) (hq : 0 < q) (hi : init.cands.Nodup)
    (fuel : Nat) (S : CState) (prev : RoundState) (acc tr : List (RoundState × CState))
    (hcs : ∀ c ∈ S.hopeful, c ∈ init.cands) (P : PscInv init.cands Sset k q N S prev (acc.map (·.1)))
    (h : stvLoop cfg init q ω fuel S prev acc = .ok tr) :
    ∃ Sf prevf, PscInv init.cands Sset k q N Sf prevf (tr.reverse.map (·.1)) ∧ Sf.nElected = cfg.m := by
  obtain ⟨Sf, prevf, accf, rfl, hm, Pf⟩ := stvLoop_induct
    (fun S prev acc => PscInv init.cands Sset k q N S prev (acc.map Prod.fst))
    (fun S prev acc S' r P _ hs =>
      psc_step cfg init q ω _ Sset k N S S' prev r _ hT hq hi P.inv.hopeful_sub P hs) P h
  exact ⟨Sf, prevf, by rwa [List.reverse_reverse], hm⟩

theorem psc_final (cands Sset : List Cand) (k : Nat) (q : Int) (N : Rat) (m : Nat)
    (S : CState) (prev : RoundState) (recs : List RoundState)
    (P : PscInv cands Sset k q N S prev recs) (hm : S.nElected = m) (hq : 0 < q)
    (hN : N < ((m : Rat) + 1) * (q : Rat)) :
    min k (min Sset.length m) ≤ jS Sset recs := by
  have hqr : (0 : Rat) < (q : Rat) := Int.cast_pos.2 hq
  by_cases hne : HS Sset S = []
  · have := P.cnt
    rw [hne, List.length_nil, Nat.add_zero] at this
    exact le_trans (min_le_min_left k (min_le_left _ _)) this
  · -- otherwise the coalition still holds a quota of active weight, and `m` seats are not yet filled
    refine le_of_not_gt fun hcon => ?_
    have hk1 : (jS Sset recs : Rat) + 1 ≤ (k : Rat) := by
      exact_mod_cast Nat.succ_le_of_lt (lt_of_lt_of_le hcon (min_le_left _ _))
    have hmul := mul_le_mul_of_nonneg_right hk1 hqr.le
    have hkw := P.kw hne
    have hact := kwS_le_active Sset S P.nn hne
    rcases P.acc with h0 | h0
    · exact hne (by unfold HS; rw [h0]; rfl)
    · have := C07_no_overfill m S.nElected 1 N (active S.bs S.hopeful) q hqr hN (le_sub_iff_add_le.2 h0)
        (by push_cast; linarith only [hmul, hkw, hact])
      exact Nat.not_succ_le_self m (hm ▸ this)

theorem kwS_init (Sset : List Cand) (bs : List Ballot) :
    kwS Sset (bs.map (fun b => (b.ranking.flatten, b.weight))) =
      rsum ((bs.filter (fun b => solidB Sset b.ranking.flatten)).map (·.weight)) := by
  unfold kwS wsum
  rw [List.filter_map, List.map_map]; rfl

theorem jS_reverse (Sset : List Cand) (l : List RoundState) : jS Sset l.reverse = jS Sset l :=
  ((electedIn_reverse_perm l).filter _).length_eq

/-- C07 for any transfer rule with `GoodTransfers`, every mode, tiebreak and oracle: if ballots whose total
weight is at least `k` thresholds are solid for `Sset`, every finished count elects at least
`min k (min |Sset| m)` members of `Sset`. `hfpv` (the round-0 scores the code records through the scoring utility
are the tallies of the initial count state) is what `fpv_link` proves for untied ballots. -/
theorem C07_droop_psc_general (cfg : STVCfg) (p : Profile) (ω : STVOracle) (res : STVResult)
    (Sset : List Cand) (k : Nat)
    (hquota : cfg.quota = .droop) (hT : GoodTransfers cfg)
    (hSc : ∀ c ∈ Sset, c ∈ p.cands) (hS : Sset.Nodup) (hc : p.cands.Nodup)
    (hw : ∀ b ∈ p.ballots, 0 < b.weight)
    (hfpv : firstPlaceVotes p = .ok (tallies (stvInitState p).bs p.cands))
    (hrun : stvRun cfg p ω = .ok res)
    (hK : (k : Rat) * (res.threshold : Rat) ≤
      rsum ((p.ballots.filter (fun b => solidB Sset b.ranking.flatten)).map (·.weight))) :
    min k (min Sset.length cfg.m) ≤ ((electedOf res.states).filter (fun c => Sset.contains c)).length := by
  obtain ⟨_, _, _, sc0, tr, hsc, hl, rfl⟩ := stvRun_eq_ok.1 hrun
  obtain rfl : tallies (stvInitState p).bs p.cands = sc0 := Outcome.ok.inj (hfpv.symm.trans hsc)
  rw [hquota] at hl hK
  have hw0 : ∀ b ∈ p.ballots, 0 ≤ b.weight := fun b hb => (hw b hb).le
  have hN0 : 0 ≤ p.total := totalWeight_nonneg _ hw0
  have hq : 0 < threshold .droop cfg.m p.total := C07_threshold_pos cfg.m p.total hN0
  have P0 : PscInv p.cands Sset k (threshold .droop cfg.m p.total) p.total (stvInitState p)
      (initialState p.cands (some (tallies (stvInitState p).bs p.cands)))
      [initialState p.cands (some (tallies (stvInitState p).bs p.cands))] := by
    refine ⟨StvInv.init hc (tallies_keys _ _), Linked.init p, List.forall_mem_map.2 hw0, fun _ => ?_, ?_, Or.inr ?_⟩
    · show (k : Rat) * _ ≤ kwS Sset (p.ballots.map _) + ((0 : Nat) : Rat) * _
      rw [kwS_init, Nat.cast_zero, zero_mul, add_zero]
      exact hK
    · show min k Sset.length ≤ 0 + (p.cands.filter (fun c => Sset.contains c)).length
      rw [filter_contains_length p.cands Sset hc hS hSc, Nat.zero_add]
      exact Nat.min_le_right _ _
    · show active (p.ballots.map _) p.cands + ((0 : Nat) : Rat) * _ ≤ _
      rw [Nat.cast_zero, zero_mul, add_zero]
      exact active_le_total p.ballots p.cands hw0
  obtain ⟨Sf, prevf, Pf, hm⟩ := psc_loop cfg p _ ω Sset k p.total hT hq hc _ _ _ _ tr (fun c hc' => hc') P0 hl
  have hfin := psc_final p.cands Sset k _ p.total cfg.m Sf prevf _ Pf hm hq (C07_droop_quota_bound cfg.m p.total)
  rw [List.map_reverse, jS_reverse] at hfin
  exact hfin

theorem C07_droop_psc_fractional (cfg : STVCfg) (p : Profile) (ω : STVOracle) (res : STVResult)
    (Sset : List Cand) (k : Nat)
    (hquota : cfg.quota = .droop) (hf : cfg.transfer = .fractional)
    (hSc : ∀ c ∈ Sset, c ∈ p.cands) (hS : Sset.Nodup) (hc : p.cands.Nodup)
    (hw : ∀ b ∈ p.ballots, 0 < b.weight)
    (hfpv : firstPlaceVotes p = .ok (tallies (stvInitState p).bs p.cands))
    (hrun : stvRun cfg p ω = .ok res)
    (hK : (k : Rat) * (res.threshold : Rat) ≤
      rsum ((p.ballots.filter (fun b => solidB Sset b.ranking.flatten)).map (·.weight))) :
    min k (min Sset.length cfg.m) ≤ ((electedOf res.states).filter (fun c => Sset.contains c)).length :=
  C07_droop_psc_general cfg p ω res Sset k hquota (goodTransfers_fractional cfg hf) hSc hS hc hw hfpv hrun hK

/-- IRV majority criterion (`S = {c}`, `k = 1`, one seat): a candidate ranked first on ballots worth at least the
threshold wins IRV. -/
theorem C07_irv_majority (p : Profile) (tb : Option TB) (ω : STVOracle) (res : STVResult) (c : Cand)
    (hcm : c ∈ p.cands) (hc : p.cands.Nodup) (hw : ∀ b ∈ p.ballots, 0 < b.weight)
    (hfpv : firstPlaceVotes p = .ok (tallies (stvInitState p).bs p.cands))
    (hrun : irvRun p .droop tb ω = .ok res)
    (hK : (res.threshold : Rat) ≤
      rsum ((p.ballots.filter (fun b => solidB [c] b.ranking.flatten)).map (·.weight))) :
    c ∈ electedOf res.states := by
  have h := C07_droop_psc_fractional _ p ω res [c] 1 rfl rfl (fun _ h => List.mem_singleton.1 h ▸ hcm)
    (List.nodup_singleton c) hc hw hfpv hrun (by rw [Nat.cast_one, one_mul]; exact hK)
  obtain ⟨x, hx⟩ := List.exists_mem_of_length_pos h
  obtain ⟨hx1, hx2⟩ := List.mem_filter.1 hx
  exact List.mem_singleton.1 (List.contains_iff_mem.1 hx2) ▸ hx1

/-- C07 for either built-in transfer rule. For every profile of untied ranked ballots over its declared
candidates (non-empty rankings, one candidate per position, positive weights), every candidate subset, every `k`,
seat count, mode, tiebreak setting and oracle value (random tiebreaks and every sample the random transfer may
draw): a finished STV count with the Droop quota elects at least `min k (min |S| m)` members of `S` whenever the
ballots solid for `S` weigh at least `k` thresholds. -/
theorem C07_droop_psc (cfg : STVCfg) (p : Profile) (ω : STVOracle) (res : STVResult)
    (Sset : List Cand) (k : Nat)
    (hquota : cfg.quota = .droop) (hf : cfg.transfer = .fractional ∨ cfg.transfer = .random)
    (hSc : ∀ c ∈ Sset, c ∈ p.cands) (hS : Sset.Nodup) (hc : p.cands.Nodup)
    (hw : ∀ b ∈ p.ballots, 0 < b.weight)
    (hne : ∀ b ∈ p.ballots, b.ranking ≠ [])
    (hsingle : ∀ b ∈ p.ballots, ∀ s ∈ b.ranking, s.length = 1)
    (hcast : ∀ b ∈ p.ballots, ∀ c ∈ b.ranking.flatten, c ∈ p.cands)
    (hrun : stvRun cfg p ω = .ok res)
    (hK : (k : Rat) * (res.threshold : Rat) ≤
      rsum ((p.ballots.filter (fun b => solidB Sset b.ranking.flatten)).map (·.weight))) :
    min k (min Sset.length cfg.m) ≤ ((electedOf res.states).filter (fun c => Sset.contains c)).length :=
  C07_droop_psc_general cfg p ω res Sset k hquota
    (hf.elim (goodTransfers_fractional cfg) (goodTransfers_random cfg))
    hSc hS hc hw (fpv_link p hne hsingle hcast) hrun hK

/-- `DroopPSC` with the side conditions of `C07_droop_psc` -/
theorem C07_DroopPSC_holds_for_untied_profiles :
    ∀ (cfg : STVCfg) (p : Profile) (ω : STVOracle) (res : STVResult) (S : List Cand) (k : Nat),
    cfg.quota = .droop → cfg.transfer = .fractional → S.Nodup → (∀ c ∈ S, c ∈ p.cands) →
    (∀ b ∈ p.ballots, 0 < b.weight) →
    p.cands.Nodup → (∀ b ∈ p.ballots, b.ranking ≠ []) → (∀ b ∈ p.ballots, ∀ s ∈ b.ranking, s.length = 1) →
    (∀ b ∈ p.ballots, ∀ c ∈ b.ranking.flatten, c ∈ p.cands) →
    stvRun cfg p ω = .ok res →
    (k : Rat) * (res.threshold : Rat) ≤
      rsum ((p.ballots.filter (fun b => solidB S b.ranking.flatten)).map (·.weight)) →
    min k (min S.length cfg.m) ≤ ((electedOf res.states).filter (fun c => S.contains c)).length :=
  fun cfg p ω res S k hq hf hS hSc hw hc hne hs hcast hrun hK =>
    C07_droop_psc cfg p ω res S k hq (Or.inl hf) hSc hS hc hw hne hs hcast hrun hK

/-- non-vacuity: a profile on which the count finishes and the identity `hfpv` holds -/
def exPscProfile : Profile :=
  Profile.mk [Ballot.mk [[0], [1]] 4 [], Ballot.mk [[1], [0]] 2 [], Ballot.mk [[2]] 2 []] [0, 1, 2]
example : (stvRun { m := 2 } exPscProfile {}).isOk = true := by decide +kernel
example : firstPlaceVotes exPscProfile = .ok (tallies (stvInitState exPscProfile).bs exPscProfile.cands) := by
  decide +kernel

/-- non-vacuity of `Solid` -/
example : Solid [1, 0] [0, 1, 2] := (solidB_iff _ _).1 (by decide)

end VK
