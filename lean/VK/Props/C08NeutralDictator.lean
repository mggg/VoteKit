/-
  C08, neutrality of RandomDictator and BoostedRandomDictator: with the draws renamed (the drawn ballot, the
  tie-breaking priority, the candidate drawn by squares) every round is renamed.
-/
import VK.Props.C08NeutralRules
namespace VK

structure RenRD (π : Cand → Cand) (ω ω' : RDOracle) : Prop where
  pick : ∀ r, ω'.pick r = renR π (ω.pick r)
  pri : ∀ r, ω'.pri r = (ω.pri r).map π
  u : ∀ r, ω'.u r = ω.u r
  sq : ∀ r, ω'.sq r = π (ω.sq r)

section
variable (π : Cand → Cand) (hπ : Function.Injective π)
include hπ

theorem dictatorPick_ren (p : Profile) (pick : Ranking) (pri : List Cand) :
    dictatorPick (renP π p) (renR π pick) (pri.map π) = (dictatorPick p pick pri).map (renLoser π) := by
  unfold dictatorPick
  simp only [renP_ballots, List.isEmpty_map, List.any_map, Function.comp_def, renB_ranking, renB_weight,
    (renR_inj π hπ).eq_iff]
  refine Outcome.ite_map rfl (Outcome.ite_map rfl ?_)
  cases pick with
  | nil => rfl
  | cons first rest =>
    simp only [renR_cons, List.length_map]
    refine Outcome.ite_map ?_ ?_
    · refine Outcome.bind_map_comm _ (tiebreakSet_ren π hπ pri first none .random) fun t _ => ?_
      obtain _ | ⟨_ | ⟨c, _ | _⟩, gs⟩ := t <;> rfl
    · obtain _ | ⟨c, _ | _⟩ := first <;> rfl

theorem removeCand_one_ren (w : Cand) (p : Profile) : removeCand [π w] (renP π p) = renP π (removeCand [w] p) :=
  removeCand_ren π hπ [w] p true false

omit hπ in
/-- the round both dictator loops record, renamed -/
theorem dictatorRound_ren (rnd : Nat) (w : Cand) (tbs : List (List Cand × Ranking)) (sc : List (Cand × Rat)) :
    ({ round := rnd, remaining := scoreToRanking (renSc π sc), elected := [[π w]], eliminated := [],
       tiebreaks := tbs.map (renTb π), scores := renSc π sc } : RoundState) =
      renRS π { round := rnd, remaining := scoreToRanking sc, elected := [[w]], eliminated := [],
                tiebreaks := tbs, scores := sc } := by
  simp only [renRS, scoreToRanking_ren, renR, List.map_cons, List.map_nil]

theorem rdLoop_ren (m : Nat) (ω ω' : RDOracle) (hω : RenRD π ω ω') (fuel : Nat) (p : Profile) (n rnd : Nat)
    (acc : List RoundState) :
    rdLoop m ω' fuel (renP π p) n rnd (renStates π acc) = (rdLoop m ω fuel p n rnd acc).map (renStates π) := by
  induction fuel generalizing p n rnd acc with
  | zero => exact Outcome.ite_map (Outcome.ok_reverse_map _ acc) rfl
  | succ k ih =>
    refine Outcome.ite_map (Outcome.ok_reverse_map _ acc) ?_
    rw [hω.pick, hω.pri]
    refine Outcome.bind_map_comm _ (dictatorPick_ren π hπ p _ _) fun ⟨w, tbs⟩ _ => ?_
    simp only [renLoser, removeCand_one_ren π hπ]
    refine Outcome.bind_map_comm _ (firstPlaceVotes_ren π hπ _) fun sc _ => ?_
    rw [dictatorRound_ren]
    exact ih _ _ _ (_ :: acc)

theorem C08_random_dictator_neutral (p : Profile) (m : Int) (ω ω' : RDOracle) (hω : RenRD π ω ω') :
    randomDictatorRun (renP π p) m ω' = (randomDictatorRun p m ω).map (renStates π) := by
  unfold randomDictatorRun
  rw [renP_cands, List.length_map, rankingValid_ren]
  refine Outcome.ite_map rfl (Outcome.ite_map rfl ?_)
  refine Outcome.bind_map_comm _ (firstPlaceVotes_ren π hπ p) fun sc0 _ => ?_
  rw [initialState_ren]
  exact rdLoop_ren π hπ m.toNat ω ω' hω _ p 0 1 [_]

theorem boostedPick_ren (p : Profile) (scores : List (Cand × Rat)) (ω ω' : RDOracle) (hω : RenRD π ω ω') (rnd : Nat) :
    boostedPick (renP π p) (renSc π scores) ω' rnd = (boostedPick p scores ω rnd).map (renLoser π) := by
  unfold boostedPick
  simp only [renP_cands, hω.u, hω.sq, hω.pick, hω.pri, renSc, List.all_map, List.any_map, Function.comp_def,
    hπ.eq_iff]
  match p.cands with
  | [c] => rfl
  | [] | _ :: _ :: _ =>
    simp only [List.map_cons, List.map_nil, List.length_cons, List.length_map]
    exact Outcome.ite_map (Outcome.ite_map rfl (Outcome.ite_map rfl rfl)) (dictatorPick_ren π hπ p _ _)

theorem brdLoop_ren (m : Nat) (ω ω' : RDOracle) (hω : RenRD π ω ω') (fuel : Nat) (p : Profile)
    (scores : List (Cand × Rat)) (n rnd : Nat) (acc : List RoundState) :
    brdLoop m ω' fuel (renP π p) (renSc π scores) n rnd (renStates π acc) =
      (brdLoop m ω fuel p scores n rnd acc).map (renStates π) := by
  induction fuel generalizing p scores n rnd acc with
  | zero => exact Outcome.ite_map (Outcome.ok_reverse_map _ acc) rfl
  | succ k ih =>
    refine Outcome.ite_map (Outcome.ok_reverse_map _ acc) ?_
    refine Outcome.bind_map_comm _ (boostedPick_ren π hπ p scores ω ω' hω rnd) fun ⟨w, tbs⟩ _ => ?_
    simp only [renLoser, removeCand_one_ren π hπ]
    refine Outcome.bind_map_comm _ (firstPlaceVotes_ren π hπ _) fun sc _ => ?_
    rw [dictatorRound_ren]
    exact ih _ _ _ _ (_ :: acc)

theorem C08_boosted_neutral (p : Profile) (m : Int) (ω ω' : RDOracle) (hω : RenRD π ω ω') :
    boostedRun (renP π p) m ω' = (boostedRun p m ω).map (renStates π) := by
  unfold boostedRun
  rw [renP_cands, List.length_map, rankingValid_ren]
  refine Outcome.ite_map rfl (Outcome.ite_map rfl ?_)
  refine Outcome.bind_map_comm _ (firstPlaceVotes_ren π hπ p) fun sc0 _ => ?_
  rw [initialState_ren]
  exact brdLoop_ren π hπ m.toNat ω ω' hω _ p sc0 0 1 [_]

end
end VK
