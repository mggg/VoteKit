/-
  Property C10 — randomness is used only to break genuine ties, and every tiebreak is recorded.
  In the model "random" = the oracle argument `pri`; a recorded tiebreak = `ElectResult.tiebreak`
  (copied into `RoundState.tiebreaks`).
-/
import VK.Model.STV
import VK.Lemmas.STVRun

namespace VK

/-- **Every tiebreak resolution is a strict order of exactly the tied set.** -/
theorem C10_resolution_is_strict_order (pri s : List Cand) (prof : Option Profile) (tb : TB) (t : Ranking)
    (hs : s.Nodup) (hsub : ∀ p, prof = some p → p.cands.Nodup ∧ ∀ c ∈ s, c ∈ p.cands)
    (h : tiebreakSet pri s prof tb = .ok t) :
    t.flatten.Perm s ∧ ∀ x ∈ t, x.length = 1 :=
  tiebreakSet_spec pri s prof tb t hs hsub h

/-- **No recorded tiebreak ⇒ the oracle was not consulted**: the result is the same for every
other oracle value (all seeds). -/
theorem C10_no_tiebreak_no_randomness (pri pri' : List Cand) (ranking : Ranking) (m : Nat)
    (prof : Option Profile) (tb : Option TB) (r : ElectResult)
    (h : electFromRanking pri ranking m prof tb = .ok r) (hnone : r.tiebreak = none) :
    electFromRanking pri' ranking m prof tb = .ok r := by
  -- the oracle is read only in the branch that records a tiebreak
  have key : ∀ (rest acc : Ranking) (k : Nat), electLoop pri prof tb k acc rest = .ok r →
      electLoop pri' prof tb k acc rest = .ok r := by
    intro rest
    induction rest with
    | nil => exact fun acc k h => h
    | cons g rest ih =>
      intro acc k h
      unfold electLoop at h ⊢
      by_cases hk : k = 0
      · rwa [if_pos hk] at h ⊢
      rw [if_neg hk] at h ⊢
      by_cases hle : g.length ≤ k
      · rw [if_pos hle] at h ⊢
        exact ih _ _ h
      rw [if_neg hle] at h ⊢
      cases tb with
      | none => exact h
      | some t =>
        obtain ⟨broken, -, h⟩ := Outcome.bind_eq_ok.1 h
        cases h
        cases hnone
  unfold electFromRanking at h ⊢
  rw [Outcome.ite_raised_eq_ok, Outcome.ite_raised_eq_ok] at h
  rw [if_neg h.1, if_neg h.2.1]
  exact key _ _ _ h.2.2

/-- **A recorded tiebreak is genuine and obeyed.** The tied set is one group of the ranking with
at least two members, it straddles the last seat, the resolution is a strict order of exactly
that set, the elected candidates are the whole groups before it plus the first part of the
resolution, and the remaining ones are the rest of the resolution followed by the later groups. -/
theorem C10_recorded_genuine (pri : List Cand) (ranking : Ranking) (m : Nat) (prof : Option Profile)
    (tb : Option TB) (r : ElectResult) (g : List Cand) (broken : Ranking)
    (hnd : ∀ g ∈ ranking, g.Nodup)
    (hsub : ∀ p, prof = some p → p.cands.Nodup ∧ ∀ g ∈ ranking, ∀ c ∈ g, c ∈ p.cands)
    (h : electFromRanking pri ranking m prof tb = .ok r) (ht : r.tiebreak = some (g, broken)) :
    ∃ pre post, ranking = pre ++ g :: post ∧ 2 ≤ g.length ∧ tb ≠ none ∧
      pre.flatten.length < m ∧ m < pre.flatten.length + g.length ∧
      broken.flatten.Perm g ∧ (∀ x ∈ broken, x.length = 1) ∧
      r.elected = pre ++ broken.take (m - pre.flatten.length) ∧
      r.remaining = broken.drop (m - pre.flatten.length) ++ post := by
  unfold electFromRanking at h
  rw [Outcome.ite_raised_eq_ok, Outcome.ite_raised_eq_ok] at h
  obtain ⟨pre, post, hrest, ⟨h1, -⟩ | ⟨g', post', broken', t, h1, h2, h3, h4, h5, -, h7, h8, h9, h10⟩⟩ :=
    electLoop_spec pri prof tb m [] ranking r hnd hsub h.2.2
  · rw [h1] at ht; cases ht
  · rw [h2] at ht
    cases ht
    exact ⟨pre, post', hrest.trans (h1 ▸ rfl), by omega, h3 ▸ Option.some_ne_none t, h4, by omega, h7, h8, h9, h10⟩

/-- members of one group of the score ranking are **genuinely tied**: they have the same score -/
theorem C10_group_members_tied (sc : List (Cand × Rat)) (hk : (sc.map (·.1)).Nodup)
    (g : List Cand) (hg : g ∈ scoreToRanking sc true) :
    ∃ v, ∀ c ∈ g, lookupScore sc c = v :=
  scoreToRanking_group_score hk hg

theorem breakGroups_filter_sorted (pri s : List Cand) (p : Profile) (sc : List (Cand × Rat)) (t : Ranking)
    (hc : p.cands.Nodup) (hkeys : sc.map (·.1) = p.cands)
    (h : breakGroups pri (scoreToRanking (sc.filter (fun cs => s.contains cs.1))) = .ok t) :
    t.flatten.Pairwise (fun a b => lookupScore sc b ≤ lookupScore sc a) := by
  have hk : (sc.map (·.1)).Nodup := hkeys ▸ hc
  have hk' : ((sc.filter (fun cs => s.contains cs.1)).map (·.1)).Nodup := hk.sublist (List.filter_sublist.map _)
  have hmem : ∀ c ∈ t.flatten, c ∈ (sc.filter (fun cs => s.contains cs.1)).map (·.1) := fun c hc =>
    (scoreToRanking_perm _).subset
      ((breakGroups_spec pri _ t (scoreToRanking_groups_nodup _ hk') h).1.subset hc)
  rw [scoreToRanking_eq] at h
  refine (breakGroups_sorted pri _ hk' _ (distinctDesc_sorted _) t h).1.imp_of_mem fun ha hb hab => ?_
  rwa [lookupScore_filter_mem sc hk _ _ (hmem _ ha), lookupScore_filter_mem sc hk _ _ (hmem _ hb)] at hab

/-- **A 'borda' or 'first_place' tiebreak orders the tied candidates by that score of the profile.** -/
theorem C10_scored_tiebreak (pri s : List Cand) (p : Profile) (t : Ranking) (hc : p.cands.Nodup) :
    (tiebreakSet pri s (some p) .borda = .ok t →
      ∃ sc, bordaScores p = .ok sc ∧
        t.flatten.Pairwise (fun a b => lookupScore sc b ≤ lookupScore sc a)) ∧
    (tiebreakSet pri s (some p) .firstPlace = .ok t →
      ∃ sc, firstPlaceVotes p = .ok sc ∧
        t.flatten.Pairwise (fun a b => lookupScore sc b ≤ lookupScore sc a)) := by
  constructor
  · intro h
    obtain ⟨sc, hs, h⟩ := Outcome.bind_eq_ok.1 h
    exact ⟨sc, hs, breakGroups_filter_sorted pri s p sc t hc (scoreFromRankings_keys p _ sc hs) h⟩
  · intro h
    obtain ⟨sc, hs, h⟩ := Outcome.bind_eq_ok.1 h
    exact ⟨sc, hs, breakGroups_filter_sorted pri s p sc t hc (scoreFromRankings_keys p _ sc hs) h⟩

theorem applyTransfers_sample_irrelevant (cfg : STVCfg) (hop : List Cand) (q : Int)
    (s s' : Cand → List (List Cand × Nat)) (hnr : cfg.transfer ≠ .random) (ws : List Cand) (bs : List PBallot) :
    applyTransfers cfg hop q s ws bs = applyTransfers cfg hop q s' ws bs := by
  -- only the random rule reads its sample
  have h1 : ∀ w bs, applyTransfer cfg hop q (s w) bs w = applyTransfer cfg hop q (s' w) bs w := by
    intro w bs
    unfold applyTransfer
    cases ht : cfg.transfer with
    | random => exact absurd ht hnr
    | _ => rfl
  induction ws generalizing bs with
  | nil => rfl
  | cons w rest ih => rw [applyTransfers_cons, applyTransfers_cons, h1, Outcome.bind_congr ih]

theorem electChoice_no_tiebreak (cfg : STVCfg) (q : Int) (ω ω' : STVOracle) (rnd : Nat) (S : CState) (prev : RoundState)
    (g : Ranking) (h : electChoice cfg q ω rnd S prev = .ok (g, [])) :
    electChoice cfg q ω' rnd S prev = .ok (g, []) := by
  unfold electChoice at h ⊢
  split
  · rwa [if_pos ‹_›] at h
  · rw [if_neg ‹_›] at h
    obtain ⟨er, he, h⟩ := Outcome.bind_eq_ok.1 h
    have hern : er.tiebreak = none := by
      cases ht : er.tiebreak with
      | none => rfl
      | some t => rw [ht] at h; cases h
    rw [C10_no_tiebreak_no_randomness _ (ω'.pri rnd) _ _ _ _ er he hern]
    exact h

theorem loserChoice_no_tiebreak (init : Profile) (ω ω' : STVOracle) (rnd : Nat) (lowest : List Cand) (c : Cand)
    (h : loserChoice init ω rnd lowest = .ok (c, [])) : loserChoice init ω' rnd lowest = .ok (c, []) := by
  unfold loserChoice at h ⊢
  split
  · -- a tied lowest group records its tiebreak
    rw [if_pos ‹_›] at h
    obtain ⟨t, -, h⟩ := Outcome.bind_eq_ok.1 h
    split at h <;> cases h
  · rwa [if_neg ‹_›] at h

theorem stvStep_no_tiebreak (cfg : STVCfg) (init : Profile) (q : Int) (ω ω' : STVOracle) (rnd : Nat)
    (S S' : CState) (prev r : RoundState) (hnr : cfg.transfer ≠ .random)
    (h : stvStep cfg init q ω rnd S prev = .ok (S', r)) (hnone : r.tiebreaks = []) :
    stvStep cfg init q ω' rnd S prev = .ok (S', r) := by
  -- the same case of `stvStep_eq_ok`, with the choices made under `ω'`
  refine stvStep_eq_ok.2 ?_
  rcases stvStep_eq_ok.1 h with ⟨g, tbs, bs', hab, he, ha, rfl, rfl⟩ | ⟨hab, hfill, rfl, rfl⟩ |
    ⟨hab, hnfill, lowest, c, tbs, hlast, hlc, rfl, rfl⟩
  · obtain rfl : tbs = [] := hnone
    rw [applyTransfers_sample_irrelevant cfg S.hopeful q _ (ω'.sample rnd) hnr] at ha
    exact .inl ⟨g, [], bs', hab, electChoice_no_tiebreak cfg q ω ω' rnd S prev g he, ha, rfl, rfl⟩
  · exact .inr (.inl ⟨hab, hfill, rfl, rfl⟩)
  · obtain rfl : tbs = [] := hnone
    exact .inr (.inr ⟨hab, hnfill, lowest, c, [], hlast, loserChoice_no_tiebreak init ω ω' rnd lowest c hlc, rfl, rfl⟩)

theorem stvLoop_no_tiebreak (cfg : STVCfg) (init : Profile) (q : Int) (ω ω' : STVOracle) (hnr : cfg.transfer ≠ .random)
    (fuel : Nat) (S : CState) (prev : RoundState) (acc tr : List (RoundState × CState))
    (h : stvLoop cfg init q ω fuel S prev acc = .ok tr) (hnone : ∀ x ∈ tr, x.1.tiebreaks = []) :
    stvLoop cfg init q ω' fuel S prev acc = .ok tr := by
  induction fuel generalizing S prev acc with
  | zero => exact h
  | succ fuel ih =>
    obtain ⟨hm, rfl⟩ | ⟨hm, n, S', r, hn, hs, h'⟩ := stvLoop_ok h
    · exact stvLoop_done _ _ _ _ _ _ _ _ hm
    · cases hn
      have hr : r.tiebreaks = [] := hnone (r, S') (stvLoop_acc_subset h' _ List.mem_cons_self)
      rw [stvLoop_succ _ _ _ _ _ _ _ _ hm, stvStep_no_tiebreak cfg init q ω ω' _ S S' prev r hnr hs hr]
      exact ih S' r _ h'

/-- **C10 for whole STV / IRV / SequentialRCV counts.** If a finished count (fractional or
full-weight transfer) records no tiebreak in any round, the complete result — every round — is the
same under every value of the random source. -/
theorem C10_stv_no_tiebreak_deterministic (cfg : STVCfg) (p : Profile) (ω ω' : STVOracle) (res : STVResult)
    (hnr : cfg.transfer ≠ .random) (h : stvRun cfg p ω = .ok res)
    (hnone : ∀ s ∈ res.states, s.tiebreaks = []) : stvRun cfg p ω' = .ok res := by
  obtain ⟨hv, hm, hq, sc0, tr, hs, hloop, rfl⟩ := stvRun_eq_ok.1 h
  exact stvRun_eq_ok.2 ⟨hv, hm, hq, sc0, tr, hs, stvLoop_no_tiebreak cfg p _ ω ω' hnr _ _ _ _ tr hloop
    (fun x hx => hnone x.1 (List.mem_map.2 ⟨x, hx, rfl⟩)), rfl⟩

end VK
