/-
  Property C18 — the positive path of `load_scottish`: what an ACCEPTED file is turned into.
  String-to-number conversion and the csv module stay modelled by contract (`String.toNat!`, rows as `csv.reader`
  yields them); the theorem is about which rows become what, and that no non-blank row is dropped.
-/
import VK.Model.Loaders
import VK.Lemmas.Outcome
import Mathlib.Data.List.Basic
namespace VK

/-- the non-blank rows with their empty cells removed: what the parser works on -/
def scotData (rows : List (List String)) : List (List String) :=
  (rows.map (fun r => r.filter (· ≠ ""))).filter (fun r => !r.isEmpty)

def scotBallotOf (l : List String) : List Nat × Nat := ((l.drop 1).map String.toNat!, (l.headD "0").toNat!)

/-- The four pieces are the parser's own `take` / `drop` expressions: header, ballot rows, the `n` candidate
rows, ward row. -/
theorem split_three (data : List (List String)) (n : Nat) (h : n + 2 ≤ data.length) :
    ∃ last, data = data.take 1 ++ (data.drop 1).take (data.length - (n + 1) - 1) ++
        (data.drop (data.length - (n + 1))).dropLast ++ [last] ∧ data.getLast? = some last ∧
      ((data.drop (data.length - (n + 1))).dropLast).length = n := by
  have hne : data.drop (data.length - (n + 1)) ≠ [] := by
    rw [Ne, List.drop_eq_nil_iff]; omega
  refine ⟨(data.drop (data.length - (n + 1))).getLast hne, ?_, ?_, ?_⟩
  · rw [List.append_assoc _ _ [_], List.dropLast_append_getLast hne, ← List.take_add,
      show 1 + (data.length - (n + 1) - 1) = data.length - (n + 1) by omega, List.take_append_drop]
  · rw [List.getLast_drop]; exact List.getLast?_eq_some_getLast _
  · rw [List.length_dropLast, List.length_drop]; omega

/-- **C18 (Scottish format, accepted files).** If the parser accepts a file then: the first non-blank row is
(candidates n, seats), exactly n rows are candidate rows, the non-blank rows are - in this order and with nothing
left over - the header, the ballot rows, the n candidate rows and the ward row; seats, ward, names and parties are
read off those rows; every ballot row becomes one ballot with its leading number as multiplicity and its other
entries, in order, as candidate numbers, all of them digit strings and all within 1..n. -/
theorem C18_scot_accepts (rows : List (List String)) (r : ScotResult) (h : parseScottish rows = .ok r) :
    ∃ (a b : String) (rest ballotLines candLines : List (List String)) (wardRow : List String),
      scotData rows = [a, b] :: rest ∧
      scotData rows = [a, b] :: ballotLines ++ candLines ++ [wardRow] ∧
      candLines.length = a.toNat! ∧
      r.seats = b.toNat! ∧
      r.ward = (match wardRow with | w :: _ => w | [] => "") ∧
      r.cands = candLines.map (fun l => l.getD 1 "") ∧ r.cands.length = a.toNat! ∧
      r.parties = candLines.map (fun l => l.getD 2 "") ∧
      (∀ l ∈ candLines, 3 ≤ l.length) ∧
      r.ballots = ballotLines.map scotBallotOf ∧
      (∀ l ∈ ballotLines, ∀ x ∈ l, isDigits x = true) ∧
      (∀ bl ∈ r.ballots, ∀ x ∈ bl.1, 1 ≤ x ∧ x ≤ r.cands.length) := by
  unfold parseScottish at h
  generalize hdata : (rows.map (fun r => r.filter (· ≠ ""))).filter (fun r => !r.isEmpty) = data at h
  rcases data with _ | ⟨_ | ⟨a, _ | ⟨b, _ | ⟨c, t⟩⟩⟩, rest⟩
  · cases h
  · cases h
  · cases h
  · -- the parser's chain of tests, read as a conjunction; `r` is the record of its last line
    simp only [Outcome.ite_raised_eq_ok, Bool.not_eq_true, List.any_eq_false, Outcome.ok.injEq,
      Bool.or_eq_false_iff, Bool.not_eq_false', decide_eq_false_iff_not, Nat.not_lt] at h
    obtain ⟨-, -, -, hlen, -, hc2, hb1, hb2, rfl⟩ := h
    obtain ⟨last, hsplit, hlast, hcl⟩ := split_three ([a, b] :: rest) a.toNat! hlen
    refine ⟨a, b, rest, _, _, last, hdata, hdata.trans hsplit, hcl, rfl, ?_, rfl, ?_, rfl, hc2, rfl, hb1, ?_⟩
    · simp only [hlast]; cases last <;> rfl
    · rw [List.length_map, hcl]
    · intro bl hbl x hx
      obtain ⟨l, hl, rfl⟩ := List.mem_map.1 hbl
      obtain ⟨s, hs, rfl⟩ := List.mem_map.1 hx
      have := hb2 l hl s hs
      rw [List.length_map, hcl]
      exact ⟨Nat.pos_of_ne_zero this.1, this.2⟩
  · cases h

/-- **Scottish format: inconsistent metadata is rejected** — a first row that is not
(candidates, seats). -/
theorem C18_scot_rejects (rows : List (List String)) (first : List String) (rest : List (List String))
    (hdata : (rows.map (fun r => r.filter (· ≠ ""))).filter (fun r => !r.isEmpty) = first :: rest)
    (hlen : first.length ≠ 2) : parseScottish rows = .raised .dataError := by
  unfold parseScottish
  simp only [hdata]
  simp [hlen]

/-- Non-vacuity. `String.toNat!`, `String.all` and `splitOn` do not reduce in the kernel, so acceptance of a concrete
file cannot be a `decide`d example; the compiled driver evaluates `parseScottish` on the well-formed files the
correspondence check writes, and `#eval parseScottish scotDemo` answers
`ok { seats := 1, ward := "Ward 1", cands := ["Ann", "Bob"], parties := ["X", "Y"], ballots := [([1, 2], 3), ([2], 2)] }`. -/
def scotDemo : List (List String) :=
  [["2", "1"], ["3", "1", "2"], [], ["2", "2"], ["Candidate 1", "Ann", "X"], ["Candidate 2", "Bob", "Y"], ["Ward 1"]]

end VK
