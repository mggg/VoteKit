/-
  C08 — representation invariance of the STV family under the fractional transfer for every mode and tiebreak,
  including one-by-one election with a scored ('borda' / 'first_place') tiebreak, which consults the profile
  currently held: every positional score of that profile is a weight-linear functional of the count state
  (`scoreFromRankings_current`), so it is the same for equivalent ballot lists.
-/
import VK.Props.C08
import VK.Props.C09
import VK.Lemmas.RescoreLin

namespace VK

theorem stvLoop_lineq_inv (cfg : STVCfg) (init init' : Profile) (q : Int) (ω : STVOracle)
    (hnr : cfg.transfer ≠ .random) (hT : GoodTransfers cfg) (hq : 0 < q)
    (hi : init.cands.Nodup) (hi' : init'.cands.Nodup)
    (hinit : firstPlaceVotes init = firstPlaceVotes init')
    (fuel : Nat) (S S2 : CState) (prev : RoundState) (acc acc2 : List (RoundState × CState))
    (hS : SameCount S S2) (hacc : acc.map (·.1) = acc2.map (·.1))
    (h1 : RunInv cfg init S prev (acc.map (·.1))) (h2 : RunInv cfg init' S2 prev (acc2.map (·.1))) :
    RelTrace (stvLoop cfg init q ω fuel S prev acc) (stvLoop cfg init' q ω fuel S2 prev acc2) := by
  -- each run carries its own `RunInv`: `electChoice_lineq` wants non-negative weights on both sides
  refine (relTrace_iff _ _).2 <| stvLoop_rel
    (fun prev recs S S2 => SameCount S S2 ∧ RunInv cfg init S prev recs ∧ RunInv cfg init' S2 prev recs)
    (fun ⟨⟨_, hn, _⟩, _⟩ => hn) (fun {prev _ S S2} ⟨hS, r1, r2⟩ => ?_) fuel hacc ⟨hS, h1, hacc ▸ h2⟩
  have ⟨hhop, _, hbs⟩ := hS
  have hec := electChoice_lineq cfg q ω (prev.round + 1) S S2 prev hhop hbs r1.nonneg r2.nonneg
  exact ((blind_lineq hnr).step q ω _ prev hec hinit hS).imp fun a b e1 e2 ⟨hr, hS'⟩ =>
    ⟨hr, hS', r1.step hT hq hi e1, hr ▸ r2.step hT hq hi' e2⟩

/-- STV with the fractional transfer does not depend on how the ballots are listed, in every mode and with every
tiebreak. Two profiles of untied ranked ballots with positive weights over the same duplicate-free candidate list
that give every ranking the same total weight (one reorders, splits or merges the other's ballots) have, under
the same oracle and provided the threshold is positive (`hq`; it is for the Droop quota, `C08_stv_rep`), the same
threshold and exactly the same rounds, or fail in the same way: simultaneous or one-by-one election, tiebreak
`None`, `random`, `borda` or `first_place`. -/
theorem C08_stv_representation_invariant_fractional (cfg : STVCfg) (p p' : Profile) (ω : STVOracle)
    (hf : cfg.transfer = .fractional) (hc : p.cands = p'.cands) (hcn : p.cands.Nodup)
    (hq : 0 < threshold cfg.quota cfg.m p.total)
    (hle : LinEq (stvInitState p).bs (stvInitState p').bs)
    (hw : ∀ b ∈ p.ballots, 0 < b.weight) (hw' : ∀ b ∈ p'.ballots, 0 < b.weight)
    (hne : ∀ b ∈ p.ballots, b.ranking ≠ []) (hsingle : ∀ b ∈ p.ballots, ∀ s ∈ b.ranking, s.length = 1)
    (hcast : ∀ b ∈ p.ballots, ∀ c ∈ b.ranking.flatten, c ∈ p.cands)
    (hne' : ∀ b ∈ p'.ballots, b.ranking ≠ []) (hsingle' : ∀ b ∈ p'.ballots, ∀ s ∈ b.ranking, s.length = 1)
    (hcast' : ∀ b ∈ p'.ballots, ∀ c ∈ b.ranking.flatten, c ∈ p'.cands) :
    RelResult (stvRun cfg p ω) (stvRun cfg p' ω) := by
  refine stvRun_rel cfg p p' ω hc hle (fun hinit => ?_) hne hsingle hcast hne' hsingle' hcast'
  have hnr : cfg.transfer ≠ .random := by rw [hf]; decide
  have r2 := RunInv.init cfg (hc ▸ hcn) hw'
  rw [← hc, ← hle.tallies p.cands] at r2
  exact stvLoop_lineq_inv cfg p p' _ ω hnr (goodTransfers_fractional cfg hf) hq hcn (hc ▸ hcn) hinit _ _ _ _ _ _
    ⟨hc, rfl, hle⟩ rfl (RunInv.init cfg hcn hw) r2

end VK
