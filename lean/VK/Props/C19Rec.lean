/-
  C19, the recursion of `BallotGraph.build_graph`: for EVERY number of candidates the recursively built
  graph (Model/BallotGraphRec.lean — n relabelled copies of the graph on n-1, the bullet votes, the
  swaps of the first two entries) is the specified ballot graph: its nodes are exactly the rankings of
  length 1..n except n-1, and two nodes are joined exactly when they are adjacent (one swap of
  neighbouring entries, or one ranking extends the other by its last entry, lengths n-2 and n counting
  as neighbours).
-/
import VK.Model.BallotGraphRec
import VK.Props.C19

namespace VK

/-- inverse of `shift i n` on the candidates other than `i` -/
def unshift (i n y : Nat) : Nat := if y > i then y - i else y + n - i

/-- the two branches of `shift`, without subtraction -/
theorem shift_cases (i n y : Nat) :
    (n < i + y ∧ shift i n y + n = i + y) ∨ (i + y ≤ n ∧ shift i n y = i + y) := by
  unfold shift
  rcases Nat.lt_or_ge n (i + y) with h | h
  · exact Or.inl ⟨h, by rw [if_pos h, Nat.sub_add_cancel h.le]⟩
  · exact Or.inr ⟨h, if_neg (Nat.not_lt.2 h)⟩

theorem unshift_cases (i n y : Nat) (hi : i ≤ n) :
    (i < y ∧ unshift i n y + i = y) ∨ (y ≤ i ∧ unshift i n y + i = y + n) := by
  unfold unshift
  rcases Nat.lt_or_ge i y with h | h
  · exact Or.inl ⟨h, by rw [if_pos h, Nat.sub_add_cancel h.le]⟩
  · exact Or.inr ⟨h, by rw [if_neg (Nat.not_lt.2 h), Nat.sub_add_cancel (Nat.le_add_left_of_le hi)]⟩

theorem shift_range (i n y : Nat) (hi : 1 ≤ i ∧ i ≤ n) (hy : 1 ≤ y ∧ y + 1 ≤ n) :
    1 ≤ shift i n y ∧ shift i n y ≤ n ∧ shift i n y ≠ i := by
  have := shift_cases i n y
  omega

theorem shift_inj (i n y z : Nat) (hy : 1 ≤ y ∧ y + 1 ≤ n) (hz : 1 ≤ z ∧ z + 1 ≤ n)
    (h : shift i n y = shift i n z) : y = z := by
  have := shift_cases i n y
  have := shift_cases i n z
  omega

theorem unshift_range (i n y : Nat) (hi : 1 ≤ i ∧ i ≤ n) (hy : 1 ≤ y ∧ y ≤ n) (hne : y ≠ i) :
    1 ≤ unshift i n y ∧ unshift i n y + 1 ≤ n := by
  have := unshift_cases i n y hi.2
  omega

theorem shift_unshift (i n y : Nat) (hi : 1 ≤ i ∧ i ≤ n) (hy : 1 ≤ y ∧ y ≤ n) :
    shift i n (unshift i n y) = y := by
  have := unshift_cases i n y hi.2
  have := shift_cases i n (unshift i n y)
  omega

theorem map_shift_inj (i n : Nat) (hi : 1 ≤ i ∧ i ≤ n) (k l : List Nat)
    (hk : ∀ x ∈ k, 1 ≤ x ∧ x + 1 ≤ n) (hl : ∀ x ∈ l, 1 ≤ x ∧ x + 1 ≤ n)
    (h : k.map (shift i n) = l.map (shift i n)) : k = l := by
  induction k generalizing l with
  | nil => exact (List.map_eq_nil_iff.1 h.symm).symm
  | cons x xs ih =>
    cases l with
    | nil => cases h
    | cons y ys =>
      rw [List.forall_mem_cons] at hk hl
      obtain ⟨h1, h2⟩ := List.cons.inj h
      rw [shift_inj i n x y hk.1 hl.1 h1, ih ys hk.2 hl.2 h2]

theorem map_shift_unshift (i n : Nat) (hi : 1 ≤ i ∧ i ≤ n) (t : List Nat) (ht : ∀ y ∈ t, 1 ≤ y ∧ y ≤ n) :
    (t.map (unshift i n)).map (shift i n) = t := by
  induction t with
  | nil => rfl
  | cons y t ih =>
    rw [List.forall_mem_cons] at ht
    rw [List.map_cons, List.map_cons, shift_unshift i n y hi ht.1, ih ht.2]

/-- entries between 1 and `m` -/
def InRange (m : Nat) (l : List Nat) : Prop := ∀ x ∈ l, 1 ≤ x ∧ x ≤ m

/-- the characterisation of `specNodes` (C19_nodes) as a predicate -/
def IsNode (n : Nat) (l : List Nat) : Prop :=
  l.Nodup ∧ InRange n l ∧ 1 ≤ l.length ∧ l.length ≤ n ∧ l.length + 1 ≠ n

theorem isNode_iff (n : Nat) (l : List Nat) : l ∈ specNodes n ↔ IsNode n l := C19_nodes n l

theorem IsNode.nodup {n : Nat} {l : List Nat} (h : IsNode n l) : l.Nodup := h.1
theorem IsNode.inRange {n : Nat} {l : List Nat} (h : IsNode n l) : InRange n l := h.2.1
theorem IsNode.length_pos {n : Nat} {l : List Nat} (h : IsNode n l) : 1 ≤ l.length := h.2.2.1
theorem IsNode.length_le {n : Nat} {l : List Nat} (h : IsNode n l) : l.length ≤ n := h.2.2.2.1
theorem IsNode.length_ne {n : Nat} {l : List Nat} (h : IsNode n l) : l.length + 1 ≠ n := h.2.2.2.2

theorem isNode_bullet (n i : Nat) (hi : 1 ≤ i ∧ i ≤ n + 3) : IsNode (n + 3) [i] :=
  ⟨List.nodup_singleton i, fun _ hx => List.mem_singleton.1 hx ▸ hi, Nat.le_refl 1, Nat.le_add_left 1 _,
    fun e => Nat.succ_ne_zero n (Nat.add_right_cancel (m := 2) e).symm⟩

theorem isNode_perm (n : Nat) (u v : List Nat) (h : v.Perm u) (hu : IsNode n u) : IsNode n v :=
  ⟨h.nodup_iff.2 hu.nodup, fun x hx => hu.inRange x (h.mem_iff.1 hx), h.length_eq ▸ hu.2.2⟩

/-- the entries of a node on `n` candidates, as `shift _ (n + 1)` wants them -/
theorem isNode_below (n : Nat) (k : List Nat) (hk : IsNode n k) : ∀ x ∈ k, 1 ≤ x ∧ x + 1 ≤ n + 1 :=
  fun x hx => ⟨(hk.inRange x hx).1, Nat.succ_le_succ (hk.inRange x hx).2⟩

/-- a node of the graph on `n - 1` candidates, relabelled behind a first choice `i`, is a node of the
graph on `n` candidates -/
theorem relabel_isNode (i n : Nat) (hn : 3 ≤ n) (hi : 1 ≤ i ∧ i ≤ n) (k : List Nat) (hk : IsNode (n - 1) k) :
    IsNode n (relabel i n k) := by
  obtain ⟨m, rfl⟩ := Nat.exists_eq_add_of_le' hn
  have hr := isNode_below (m + 2) k hk
  obtain ⟨hnd, -, -, h2, h3⟩ : IsNode (m + 2) k := hk
  have hs := fun y hy => shift_range i (m + 3) y hi (hr y hy)
  refine ⟨List.nodup_cons.2 ⟨?_, ?_⟩, List.forall_mem_cons.2 ⟨hi, ?_⟩, ?_⟩
  · intro hmem
    obtain ⟨y, hy, hye⟩ := List.mem_map.1 hmem
    exact (hs y hy).2.2 hye
  · exact hnd.map_on fun x hx y hy => shift_inj i (m + 3) x y (hr x hx) (hr y hy)
  · exact List.forall_mem_map.2 fun y hy => ⟨(hs y hy).1, (hs y hy).2.1⟩
  · rw [relabel, List.length_cons, List.length_map]
    exact ⟨Nat.le_add_left 1 _, Nat.succ_le_succ h2, fun e => h3 (Nat.succ.inj e)⟩

/-- every node of length at least two is such a relabelled node: of its tail moved back by `unshift` -/
theorem isNode_unshift (n i : Nat) (t : List Nat) (ht : t ≠ []) (hu : IsNode (n + 1) (i :: t)) :
    (1 ≤ i ∧ i ≤ n + 1) ∧ IsNode n (t.map (unshift i (n + 1))) ∧
      relabel i (n + 1) (t.map (unshift i (n + 1))) = i :: t := by
  obtain ⟨hnd, hr, -, h2, h3⟩ := hu
  rw [List.nodup_cons] at hnd
  obtain ⟨hi, hr⟩ := List.forall_mem_cons.1 hr
  have hback := map_shift_unshift i (n + 1) hi t hr
  refine ⟨hi, ⟨?_, ?_, ?_⟩, congrArg (i :: ·) hback⟩
  · -- a left inverse makes the map injective
    exact List.Nodup.of_map (shift i (n + 1)) (hback.symm ▸ hnd.2)
  · exact List.forall_mem_map.2 fun y hy =>
      have := unshift_range i (n + 1) y hi (hr y hy) fun e => hnd.1 (e ▸ hy)
      ⟨this.1, Nat.le_of_succ_le_succ this.2⟩
  · rw [List.length_map]
    exact ⟨List.length_pos_iff.2 ht, Nat.le_of_succ_le_succ h2, fun e => h3 (congrArg Nat.succ e)⟩

theorem isNode_relabel (n : Nat) (hn : 3 ≤ n) (i : Nat) (t : List Nat) (ht : t ≠ []) (hu : IsNode n (i :: t)) :
    (1 ≤ i ∧ i ≤ n) ∧ ∃ k, IsNode (n - 1) k ∧ relabel i n k = i :: t ∧ k.length = t.length := by
  obtain ⟨m, rfl⟩ := Nat.exists_eq_add_of_le' hn
  obtain ⟨hi, hk, hrel⟩ := isNode_unshift (m + 2) i t ht hu
  exact ⟨hi, _, hk, hrel, List.length_map _⟩

/-- `v` is `u` with two neighbouring entries exchanged -/
def SwapP (u v : List Nat) : Prop := u.length = v.length ∧ u ≠ v ∧ ∃ p, p < u.length - 1 ∧ swapAt u p = v
/-- `v` extends `u` by one entry -/
def ExtP (u v : List Nat) : Prop := u.length + 1 = v.length ∧ v.take u.length = u
/-- `v` is a complete ranking extending `u` of length `n - 2` -/
def Ext2P (n : Nat) (u v : List Nat) : Prop := u.length + 2 = n ∧ v.length = n ∧ v.take u.length = u

theorem adj_iff (n : Nat) (u v : List Nat) :
    adj n u v = true ↔ SwapP u v ∨ ExtP u v ∨ ExtP v u ∨ Ext2P n u v ∨ Ext2P n v u := by
  unfold adj isAdjSwap isPrefix SwapP ExtP Ext2P
  simp only [Bool.or_eq_true, Bool.and_eq_true, decide_eq_true_eq, bne_iff_ne, ne_eq, List.any_eq_true,
    List.mem_range, beq_iff_eq, and_assoc, or_assoc]

theorem swapAt_zero (u : List Nat) : swapAt u 0 = swap01 u := by
  rcases u with _ | ⟨a, _ | ⟨b, r⟩⟩ <;> rfl

theorem swap01_ne (u : List Nat) (hnd : u.Nodup) (hlen : 2 ≤ u.length) : u ≠ swap01 u := by
  match u, hlen, hnd with
  | a :: b :: rest, _, hnd =>
    intro e
    exact (List.nodup_cons.1 hnd).1 ((List.cons.inj e).1 ▸ List.mem_cons_self)

/-- a swap that keeps the first entry is a swap of the tail: exchanging the first two entries would
change it, or change nothing -/
theorem swapP_cons (i : Nat) (t t' : List Nat) : SwapP (i :: t) (i :: t') ↔ SwapP t t' := by
  unfold SwapP
  simp only [List.length_cons, Nat.add_right_cancel_iff, ne_eq, List.cons.injEq, true_and, Nat.add_sub_cancel]
  refine and_congr_right fun hl => and_congr_right fun hne => ⟨?_, ?_⟩
  · rintro ⟨p, hp, h⟩
    cases p with
    | zero =>
      rcases t with _ | ⟨b, r⟩
      · cases hp
      · cases h; exact absurd rfl hne
    | succ p =>
      rw [swapAt_cons_succ] at h
      exact ⟨p, Nat.lt_sub_of_add_lt hp, (List.cons.inj h).2⟩
  · rintro ⟨p, hp, h⟩
    exact ⟨p + 1, Nat.add_lt_of_lt_sub hp, by rw [swapAt_cons_succ, h]⟩

theorem extP_cons (i : Nat) (t t' : List Nat) : ExtP (i :: t) (i :: t') ↔ ExtP t t' := by
  simp only [ExtP, List.length_cons, Nat.add_right_cancel_iff, List.take_succ_cons, List.cons.injEq, true_and]

theorem ext2P_cons (n i : Nat) (t t' : List Nat) : Ext2P (n + 1) (i :: t) (i :: t') ↔ Ext2P n t t' := by
  simp only [Ext2P, List.length_cons, Nat.add_right_cancel_iff, List.take_succ_cons, List.cons.injEq, true_and,
    Nat.add_right_comm _ 1 2]

theorem adj_cons (n i : Nat) (t t' : List Nat) : adj (n + 1) (i :: t) (i :: t') = true ↔ adj n t t' = true := by
  simp only [adj_iff, swapP_cons, extP_cons, ext2P_cons]

/-- what is adjacent to the empty list (the tail of a bullet vote) -/
theorem adj_nil (n : Nat) (t : List Nat) : adj n t [] = true ↔ t.length = 1 ∨ (n = 2 ∧ t.length = 2) := by
  simp only [adj_iff, SwapP, ExtP, Ext2P, List.length_nil, List.take_zero, List.take_nil, Nat.zero_add]
  constructor
  · rintro (⟨h, _, p, hp, _⟩ | ⟨h, _⟩ | ⟨h, _⟩ | ⟨h1, h2, _⟩ | ⟨h1, h2, _⟩)
    · rw [h] at hp
      exact absurd hp (Nat.not_lt_zero p)
    · cases h
    · exact Or.inl h.symm
    · cases h1.trans h2.symm
    · exact Or.inr ⟨h1.symm, h2.trans h1.symm⟩
  · rintro (h | ⟨rfl, h⟩)
    · exact Or.inr (Or.inr (Or.inl ⟨h.symm, trivial⟩))
    · exact Or.inr (Or.inr (Or.inr (Or.inr ⟨rfl, h, trivial⟩)))

theorem extP_map (g : Nat → Nat) (k l : List Nat) (h : ExtP k l) : ExtP (k.map g) (l.map g) :=
  ⟨by simpa only [List.length_map] using h.1, by rw [List.length_map, ← List.map_take, h.2]⟩

theorem ext2P_map (g : Nat → Nat) (n : Nat) (k l : List Nat) (h : Ext2P n k l) : Ext2P n (k.map g) (l.map g) :=
  ⟨by simpa only [List.length_map] using h.1, by simpa only [List.length_map] using h.2.1,
    by rw [List.length_map, ← List.map_take, h.2.2]⟩

theorem adj_map (g : Nat → Nat) (n : Nat) (k l : List Nat) (hg : k.map g = l.map g → k = l)
    (h : adj n k l = true) : adj n (k.map g) (l.map g) = true := by
  rw [adj_iff] at h ⊢
  refine h.imp ?_ (Or.imp (extP_map g k l) (Or.imp (extP_map g l k) (Or.imp (ext2P_map g n k l) (ext2P_map g n l k))))
  rintro ⟨hl, hne, p, hp, hs⟩
  exact ⟨by simpa only [List.length_map] using hl, fun e => hne (hg e), p, by simpa only [List.length_map] using hp,
    by rw [swapAt_map, hs]⟩

/-- relabelling behind the same first choice keeps adjacency -/
theorem relabel_adj (i n : Nat) (hi : 1 ≤ i ∧ i ≤ n) (k l : List Nat)
    (hk : ∀ x ∈ k, 1 ≤ x ∧ x + 1 ≤ n) (hl : ∀ x ∈ l, 1 ≤ x ∧ x + 1 ≤ n)
    (h : adj (n - 1) k l = true) (hn : 3 ≤ n) : adj n (relabel i n k) (relabel i n l) = true := by
  obtain ⟨m, rfl⟩ := Nat.exists_eq_add_of_le' hn
  exact (adj_cons (m + 2) i _ _).2 (adj_map _ (m + 2) k l (map_shift_inj i _ hi k l hk hl) h)

theorem mem_corner_nodes (prev : RecGraph) (N i : Nat) (u : List Nat) :
    u ∈ (cornerOf prev N i).1 ↔ u = [i] ∨ ∃ k ∈ prev.nodes, relabel i N k = u := by
  simp only [cornerOf, List.mem_cons, List.mem_map]

theorem mem_corner_edges (prev : RecGraph) (N i : Nat) (u v : List Nat) :
    (u, v) ∈ (cornerOf prev N i).2 ↔
      (∃ e ∈ prev.edges, relabel i N e.1 = u ∧ relabel i N e.2 = v) ∨
      (∃ k ∈ prev.nodes, (N = 3 ∨ k.length = 1) ∧ relabel i N k = u ∧ [i] = v) := by
  simp only [cornerOf, List.mem_append, List.mem_map, Prod.mk.injEq]
  refine or_congr Iff.rfl ?_
  by_cases h : N = 3
  · simp only [h, if_true, true_or, true_and, List.mem_map, exists_exists_and_eq_and]
  · simp only [h, if_false, false_or, List.mem_filter, List.mem_map, decide_eq_true_eq, and_assoc,
      exists_exists_and_eq_and, relabel, List.length_cons, List.length_map, Nat.reduceEqDiff]

theorem mem_flatMap_map {α β γ} (f : α → β) (g : β → List γ) (l : List α) (x : γ) :
    x ∈ (l.map f).flatMap g ↔ ∃ a ∈ l, x ∈ g (f a) := by
  rw [List.flatMap_map, List.mem_flatMap]

theorem mem_build_nodes (n : Nat) (u : List Nat) :
    u ∈ (buildGraph (n + 3)).nodes ↔
      ∃ i, (1 ≤ i ∧ i ≤ n + 3) ∧ (u = [i] ∨ ∃ k ∈ (buildGraph (n + 2)).nodes, relabel i (n + 3) k = u) := by
  simp only [buildGraph]
  rw [mem_flatMap_map]
  simp only [mem_cands1n, mem_corner_nodes]

theorem mem_build_edges (n : Nat) (u v : List Nat) :
    (u, v) ∈ (buildGraph (n + 3)).edges ↔
      (∃ i, (1 ≤ i ∧ i ≤ n + 3) ∧
        ((∃ e ∈ (buildGraph (n + 2)).edges, relabel i (n + 3) e.1 = u ∧ relabel i (n + 3) e.2 = v) ∨
         (∃ k ∈ (buildGraph (n + 2)).nodes, (n + 3 = 3 ∨ k.length = 1) ∧ relabel i (n + 3) k = u ∧ [i] = v))) ∨
      (u ∈ (buildGraph (n + 3)).nodes ∧ 2 ≤ u.length ∧ swap01 u = v) := by
  have : (buildGraph (n + 3)).edges =
      (((List.range (n + 3)).map (· + 1)).map (cornerOf (buildGraph (n + 2)) (n + 3))).flatMap (·.2) ++
      ((buildGraph (n + 3)).nodes.filter (fun b => b.length ≥ 2)).map (fun b => (b, swap01 b)) := by
    simp only [buildGraph]
  rw [this, List.mem_append, mem_flatMap_map]
  simp only [mem_cands1n, mem_corner_edges]
  simp only [List.mem_map, List.mem_filter, Prod.mk.injEq, decide_eq_true_eq, ge_iff_le]
  refine or_congr Iff.rfl ⟨?_, fun ⟨hb, hl, h⟩ => ⟨u, ⟨hb, hl⟩, rfl, h⟩⟩
  rintro ⟨b, ⟨hb, hl⟩, rfl, h⟩
  exact ⟨hb, hl, h⟩

theorem specNodes_one : specNodes 1 = [[1]] := by decide
theorem specNodes_two : specNodes 2 = [[1, 2], [2, 1]] := by decide

/-- **The recursion builds exactly the specified nodes**, for every number of candidates. -/
theorem C19_rec_nodes (n : Nat) (hn : 1 ≤ n) (u : List Nat) :
    u ∈ (buildGraph n).nodes ↔ u ∈ specNodes n :=
  match n, hn with
  | 1, _ => by rw [specNodes_one]; rfl
  | 2, _ => by rw [specNodes_two]; rfl
  | n + 3, _ => by
    have ih := fun k => (C19_rec_nodes (n + 2) (Nat.le_add_left 1 _) k).trans (isNode_iff _ k)
    rw [mem_build_nodes, isNode_iff]
    constructor
    · rintro ⟨i, hi, rfl | ⟨k, hk, rfl⟩⟩
      · exact isNode_bullet n i hi
      · exact relabel_isNode i (n + 3) (Nat.le_add_left 3 n) hi k ((ih k).1 hk)
    · intro hu
      rcases u with _ | ⟨i, _ | ⟨a, t⟩⟩
      · exact absurd hu.length_pos (Nat.not_succ_le_zero 0)
      · exact ⟨i, hu.inRange i (List.mem_singleton_self i), Or.inl rfl⟩
      · obtain ⟨hi, hk, hrel⟩ := isNode_unshift (n + 2) i (a :: t) (List.cons_ne_nil a t) hu
        exact ⟨i, hi, Or.inr ⟨_, (ih _).2 hk, hrel⟩⟩

/-- `u` and `v` are joined in the recursively built graph (edges are unordered) -/
def REdge (g : RecGraph) (u v : List Nat) : Prop := (u, v) ∈ g.edges ∨ (v, u) ∈ g.edges

theorem REdge_symm (g : RecGraph) (u v : List Nat) : REdge g u v ↔ REdge g v u := Or.comm

/-- every edge the recursion adds joins two specified nodes that are adjacent -/
theorem build_edges_sound (n : Nat)
    (ihn : ∀ k, k ∈ (buildGraph (n + 2)).nodes ↔ k ∈ specNodes (n + 2))
    (ihe : ∀ k l, REdge (buildGraph (n + 2)) k l ↔
      k ∈ specNodes (n + 2) ∧ l ∈ specNodes (n + 2) ∧ adj (n + 2) k l = true)
    (u v : List Nat) (h : (u, v) ∈ (buildGraph (n + 3)).edges) :
    IsNode (n + 3) u ∧ IsNode (n + 3) v ∧ adj (n + 3) u v = true := by
  have hn : 3 ≤ n + 3 := Nat.le_add_left 3 n
  rcases (mem_build_edges n u v).1 h with ⟨i, hi, ⟨e, he, rfl, rfl⟩ | ⟨k, hk, hlen, rfl, rfl⟩⟩ | ⟨hu, hlen, rfl⟩
  · -- a relabelled edge of the smaller graph
    obtain ⟨h1, h2, h3⟩ := (ihe e.1 e.2).1 (Or.inl he)
    rw [isNode_iff] at h1 h2
    exact ⟨relabel_isNode i _ hn hi _ h1, relabel_isNode i _ hn hi _ h2,
      relabel_adj i _ hi _ _ (isNode_below _ _ h1) (isNode_below _ _ h2) h3 hn⟩
  · -- a bullet vote joined to the shortest (or, for three candidates, the complete) rankings behind it
    have nk : IsNode (n + 2) k := (isNode_iff _ _).1 ((ihn k).1 hk)
    refine ⟨relabel_isNode i _ hn hi k nk, isNode_bullet n i hi, (adj_cons _ i _ []).2 ((adj_nil _ _).2 ?_)⟩
    rw [List.length_map]
    rcases hlen with h3 | h1
    · -- three candidates: the nodes of the smaller graph are the complete rankings
      obtain rfl : n = 0 := Nat.add_right_cancel (m := 3) (h3.trans (Nat.zero_add 3).symm)
      -- `k` has one or two entries, and not one
      have := nk.length_pos
      have := nk.length_le
      have := nk.length_ne
      exact Or.inr ⟨rfl, by omega⟩
    · exact Or.inl h1
  · -- exchanging the first two entries
    have nu : IsNode (n + 3) u := (isNode_iff _ _).1 ((C19_rec_nodes (n + 3) (Nat.le_add_left 1 _) u).1 hu)
    refine ⟨nu, isNode_perm _ _ _ (swapAt_zero u ▸ swapAt_perm u 0) nu, (adj_iff _ _ _).2 (Or.inl ?_)⟩
    exact ⟨swapAt_zero u ▸ (swapAt_length u 0).symm, swap01_ne u nu.nodup hlen, 0, Nat.sub_pos_of_lt hlen, swapAt_zero u⟩

/-- two nodes with the same first choice whose tails are adjacent are joined: their tails, moved back by
`unshift`, are adjacent nodes of the smaller graph, or one of them is a bullet vote -/
theorem same_head_edge (n : Nat)
    (ihn : ∀ k, IsNode (n + 2) k → k ∈ (buildGraph (n + 2)).nodes)
    (ihe : ∀ k l, IsNode (n + 2) k → IsNode (n + 2) l → adj (n + 2) k l = true → REdge (buildGraph (n + 2)) k l)
    (i : Nat) (t t' : List Nat) (nu : IsNode (n + 3) (i :: t)) (nv : IsNode (n + 3) (i :: t'))
    (h : adj (n + 2) t t' = true) : REdge (buildGraph (n + 3)) (i :: t) (i :: t') := by
  -- the edge from a longer node to the bullet vote in front of it
  have bullet : ∀ t, IsNode (n + 3) (i :: t) → adj (n + 2) t [] = true →
      (i :: t, [i]) ∈ (buildGraph (n + 3)).edges := by
    intro t nu h
    rw [adj_nil] at h
    have ht : t ≠ [] := List.ne_nil_of_length_pos (h.elim (· ▸ Nat.one_pos) (·.2 ▸ Nat.two_pos))
    obtain ⟨hi, nk, hrel⟩ := isNode_unshift (n + 2) i t ht nu
    have hc : n + 3 = 3 ∨ (t.map (unshift i (n + 3))).length = 1 := by
      rw [List.length_map]
      exact h.symm.imp (fun h => congrArg Nat.succ h.1) id
    exact (mem_build_edges n _ _).2 (Or.inl ⟨i, hi, Or.inr ⟨_, ihn _ nk, hc, hrel, rfl⟩⟩)
  by_cases ht : t = []
  · subst ht
    exact Or.inr (bullet t' nv (by rwa [C19_adj_symm]))
  by_cases ht' : t' = []
  · subst ht'
    exact Or.inl (bullet t nu h)
  obtain ⟨hi, nk, hk⟩ := isNode_unshift (n + 2) i t ht nu
  obtain ⟨_, nl, hl⟩ := isNode_unshift (n + 2) i t' ht' nv
  have hkl : adj (n + 2) (t.map (unshift i (n + 3))) (t'.map (unshift i (n + 3))) = true := by
    refine adj_map _ _ t t' (fun e => ?_) h
    rw [← (List.cons.inj hk).2, ← (List.cons.inj hl).2, e]
  rw [← hk, ← hl]
  refine (ihe _ _ nk nl hkl).imp (fun he => ?_) (fun he => ?_) <;>
    exact (mem_build_edges n _ _).2 (Or.inl ⟨i, hi, Or.inl ⟨_, he, rfl, rfl⟩⟩)

/-- **Every pair of adjacent specified nodes is joined by the recursion** (one orientation of each
kind of adjacency; the others follow by symmetry). -/
theorem build_edges_complete_half (n : Nat)
    (ihn : ∀ k, k ∈ (buildGraph (n + 2)).nodes ↔ k ∈ specNodes (n + 2))
    (ihe : ∀ k l, REdge (buildGraph (n + 2)) k l ↔
      k ∈ specNodes (n + 2) ∧ l ∈ specNodes (n + 2) ∧ adj (n + 2) k l = true)
    (u v : List Nat) (nu : IsNode (n + 3) u) (nv : IsNode (n + 3) v)
    (h : SwapP u v ∨ ExtP u v ∨ Ext2P (n + 3) u v) : REdge (buildGraph (n + 3)) u v := by
  have hadj : adj (n + 3) u v = true :=
    (adj_iff _ _ _).2 (h.imp_right (Or.imp_right fun h => Or.inr (Or.inl h)))
  obtain ⟨i, t, rfl⟩ := List.exists_cons_of_length_pos nu.length_pos
  obtain ⟨j, t', rfl⟩ := List.exists_cons_of_length_pos nv.length_pos
  by_cases hij : j = i
  · subst hij
    exact same_head_edge n (fun k hk => (ihn k).2 ((isNode_iff _ k).2 hk))
      (fun k l hk hl h => (ihe k l).2 ⟨(isNode_iff _ k).2 hk, (isNode_iff _ l).2 hl, h⟩)
      j t t' nu nv ((adj_cons _ j t t').1 hadj)
  · -- different first choices: only exchanging the first two entries changes the first
    rcases h with ⟨hlen, _, p, hp, hsw⟩ | ⟨_, htake⟩ | ⟨_, _, htake⟩
    · cases p with
      | zero =>
        rw [swapAt_zero] at hsw
        refine Or.inl ((mem_build_edges n _ _).2 (Or.inr ⟨?_, Nat.lt_of_sub_pos hp, hsw⟩))
        exact (C19_rec_nodes (n + 3) (Nat.le_add_left 1 _) _).2 ((isNode_iff _ _).2 nu)
      | succ q =>
        rw [swapAt_cons_succ] at hsw
        exact absurd (List.cons.inj hsw).1.symm hij
    · rw [List.length_cons, List.take_succ_cons] at htake
      exact absurd (List.cons.inj htake).1 hij
    · rw [List.length_cons, List.take_succ_cons] at htake
      exact absurd (List.cons.inj htake).1 hij

/-- the graphs on one and two candidates are tables: every recorded edge joins adjacent nodes, and all
adjacent nodes are joined -/
theorem rec_edges_small (n : Nat) (hn : n = 1 ∨ n = 2) (u v : List Nat) :
    REdge (buildGraph n) u v ↔ u ∈ specNodes n ∧ v ∈ specNodes n ∧ adj n u v = true := by
  have table : (∀ e ∈ (buildGraph n).edges,
        e.1 ∈ specNodes n ∧ e.2 ∈ specNodes n ∧ adj n e.1 e.2 = true ∧ adj n e.2 e.1 = true) ∧
      ∀ u ∈ specNodes n, ∀ v ∈ specNodes n, adj n u v = true →
        (u, v) ∈ (buildGraph n).edges ∨ (v, u) ∈ (buildGraph n).edges := by
    rcases hn with rfl | rfl <;> decide
  constructor
  · rintro (h | h)
    · obtain ⟨h1, h2, h12, -⟩ := table.1 _ h
      exact ⟨h1, h2, h12⟩
    · obtain ⟨h1, h2, -, h21⟩ := table.1 _ h
      exact ⟨h2, h1, h21⟩
  · exact fun ⟨hu, hv, ha⟩ => table.2 u hu v hv ha

/-- **The recursion joins exactly the adjacent nodes**, for every number of candidates: two rankings are
joined in the recursively built graph iff both are specified nodes and they are adjacent. -/
theorem C19_rec_edges (n : Nat) (hn : 1 ≤ n) (u v : List Nat) :
    REdge (buildGraph n) u v ↔ u ∈ specNodes n ∧ v ∈ specNodes n ∧ adj n u v = true :=
  match n, hn with
  | 1, _ => rec_edges_small 1 (Or.inl rfl) u v
  | 2, _ => rec_edges_small 2 (Or.inr rfl) u v
  | n + 3, _ => by
    have ihn := fun k => C19_rec_nodes (n + 2) (Nat.le_add_left 1 _) k
    have ihe := fun k l => C19_rec_edges (n + 2) (Nat.le_add_left 1 _) k l
    simp only [isNode_iff]
    constructor
    · rintro (h | h)
      · exact build_edges_sound n ihn ihe u v h
      · obtain ⟨a, b, c⟩ := build_edges_sound n ihn ihe v u h
        exact ⟨b, a, (C19_adj_symm _ u v).trans c⟩
    · rintro ⟨nu, nv, ha⟩
      rcases (adj_iff _ _ _).1 ha with h | h | h | h | h
      · exact build_edges_complete_half n ihn ihe u v nu nv (Or.inl h)
      · exact build_edges_complete_half n ihn ihe u v nu nv (Or.inr (Or.inl h))
      · exact (REdge_symm _ _ _).1 (build_edges_complete_half n ihn ihe v u nv nu (Or.inr (Or.inl h)))
      · exact build_edges_complete_half n ihn ihe u v nu nv (Or.inr (Or.inr h))
      · exact (REdge_symm _ _ _).1 (build_edges_complete_half n ihn ihe v u nv nu (Or.inr (Or.inr h)))

theorem C19_rec_no_loops (n : Nat) (hn : 1 ≤ n) (u : List Nat) : ¬ REdge (buildGraph n) u u := by
  intro h
  have := ((C19_rec_edges n hn u u).1 h).2.2
  rw [adj_iff] at this
  rcases this with ⟨_, hne, _⟩ | ⟨hl, _⟩ | ⟨hl, _⟩ | ⟨h1, h2, _⟩ | ⟨h1, h2, _⟩
  · exact hne rfl
  · omega
  · omega
  · omega
  · omega

/-- non-vacuity: for four candidates the bullet vote [2] is joined to [2, 1], and [1, 2] to the complete
ranking [1, 2, 3, 4] -/
example : REdge (buildGraph 4) [2] [2, 1] ∧ REdge (buildGraph 4) [1, 2] [1, 2, 3, 4] := by
  constructor
  · exact (C19_rec_edges 4 (by omega) _ _).2 (by decide)
  · exact (C19_rec_edges 4 (by omega) _ _).2 (by decide)

end VK
