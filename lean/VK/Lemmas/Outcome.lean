/-
  Inverting `x >>= f = .ok b` and validator chains `if bad then .raised e else …`;
  `Outcome.map`; `Outcome.Rel`, which says that two runs fail alike or return related values without a
  case table over two outcomes. No Mathlib import.
-/
import VK.Model.Basic
namespace VK
namespace Outcome
variable {α β : Type}

theorem bind_eq_ok {x : Outcome α} {f : α → Outcome β} {b : β} :
    (x >>= f) = ok b ↔ ∃ a, x = ok a ∧ f a = ok b := by
  cases x with
  | ok a => exact ⟨fun h => ⟨a, rfl, h⟩, fun ⟨_, h1, h2⟩ => by cases h1; exact h2⟩
  | _ => exact ⟨fun h => (nomatch h), fun ⟨_, h1, _⟩ => (nomatch h1)⟩

theorem ite_raised_eq_ok {c : Prop} [Decidable c] {e : Exn} {x : Outcome α} {a : α} :
    (if c then raised e else x) = ok a ↔ ¬ c ∧ x = ok a := by
  by_cases h : c
  · rw [if_pos h]; exact ⟨fun h' => (nomatch h'), fun h' => absurd h h'.1⟩
  · rw [if_neg h]; exact ⟨fun h' => ⟨h, h'⟩, And.right⟩

theorem ite_ok_eq_ok {c : Prop} [Decidable c] {x : Outcome α} {a : α} :
    (if c then x else ok a) = ok a ↔ (c → x = ok a) := by
  by_cases h : c
  · rw [if_pos h]; exact ⟨fun h' _ => h', fun h' => h' h⟩
  · rw [if_neg h]; exact ⟨fun _ hc => absurd hc h, fun _ => rfl⟩

theorem ite_ok_or_raised {c : Prop} [Decidable c] {e : Exn} {x y : Outcome α} {a : α}
    (hx : x = ok a ∨ x = raised e) (hy : y = ok a ∨ y = raised e) :
    (if c then x else y) = ok a ∨ (if c then x else y) = raised e := by
  by_cases h : c
  · rw [if_pos h]; exact hx
  · rw [if_neg h]; exact hy

def map {α β} (f : α → β) : Outcome α → Outcome β
  | .ok a => .ok (f a)
  | .raised e => .raised e
  | .oracleMismatch => .oracleMismatch
  | .outOfFuel => .outOfFuel

@[simp] theorem map_ok {α β} (f : α → β) (a : α) : (Outcome.ok a).map f = .ok (f a) := rfl
@[simp] theorem map_raised {α β} (f : α → β) (e : Exn) : (Outcome.raised e : Outcome α).map f = .raised e := rfl
@[simp] theorem map_mismatch {α β} (f : α → β) : (Outcome.oracleMismatch : Outcome α).map f = .oracleMismatch := rfl
@[simp] theorem map_fuel {α β} (f : α → β) : (Outcome.outOfFuel : Outcome α).map f = .outOfFuel := rfl

theorem map_bind {α β γ} (x : Outcome α) (g : α → Outcome β) (f : β → γ) :
    (x >>= g).map f = x >>= (fun a => (g a).map f) := by cases x <;> rfl

theorem bind_map {α β γ} (x : Outcome α) (f : α → β) (g : β → Outcome γ) :
    (x.map f) >>= g = x >>= (fun a => g (f a)) := by cases x <;> rfl

/-- If the first computations correspond under `ra`, and the continuations under `rb` on every value the first one
can return, then so do the composites: a `_ren` lemma about a `do` block follows from those of its steps. -/
theorem bind_map_comm {α α' β β'} {x : Outcome α} {x' : Outcome α'} {f : α → Outcome β}
    {f' : α' → Outcome β'} {ra : α → α'} (rb : β → β') (hx : x' = x.map ra)
    (hf : ∀ a, x = .ok a → f' (ra a) = (f a).map rb) : x' >>= f' = (x >>= f).map rb := by
  subst hx
  cases x with
  | ok a => exact hf a rfl
  | _ => rfl

theorem ite_map {α β} {c : Prop} {_ : Decidable c} {f : α → β} {x y : Outcome α} {x' y' : Outcome β}
    (hx : x' = x.map f) (hy : y' = y.map f) : (if c then x' else y') = (if c then x else y).map f := by
  subst hx hy; exact (apply_ite _ _ _ _).symm

theorem ok_reverse_map {α β} (f : α → β) (l : List α) :
    Outcome.ok (l.map f).reverse = (Outcome.ok l.reverse).map (List.map f) :=
  congrArg Outcome.ok List.map_reverse.symm

theorem bind_congr_ok {x : Outcome α} {f g : α → Outcome β} (h : ∀ a, x = ok a → f a = g a) :
    x >>= f = x >>= g := by
  cases x with
  | ok a => exact h a rfl
  | _ => rfl

theorem bind_congr {x : Outcome α} {f g : α → Outcome β} (h : ∀ a, f a = g a) : x >>= f = x >>= g :=
  congrArg _ (funext h)

/-- the two outcomes fail alike, or both return and the values are related -/
def Rel (R : α → β → Prop) : Outcome α → Outcome β → Prop
  | ok a, ok b => R a b
  | raised e, raised e' => e = e'
  | oracleMismatch, oracleMismatch => True
  | outOfFuel, outOfFuel => True
  | _, _ => False

namespace Rel
variable {γ δ : Type} {R : α → β → Prop} {Q : γ → δ → Prop}

theorem bind {x : Outcome α} {y : Outcome β} {f : α → Outcome γ} {g : β → Outcome δ}
    (h : Rel R x y) (hf : ∀ a b, R a b → Rel Q (f a) (g b)) : Rel Q (x >>= f) (y >>= g) := by
  cases x <;> cases y <;> try exact h.elim
  · exact hf _ _ h
  · exact h
  · trivial
  · trivial

theorem bind_same (x : Outcome α) {f : α → Outcome γ} {g : α → Outcome δ}
    (hf : ∀ a, Rel Q (f a) (g a)) : Rel Q (x >>= f) (x >>= g) := by
  cases x
  · exact hf _
  · exact rfl
  · trivial
  · trivial

theorem bind_eq {x : Outcome α} {y : Outcome β} {f : α → Outcome γ} {g : β → Outcome γ}
    (h : Rel R x y) (hf : ∀ a b, R a b → f a = g b) : x >>= f = y >>= g := by
  cases x <;> cases y <;> try exact h.elim
  · exact hf _ _ h
  · exact congrArg raised h
  · rfl
  · rfl

/-- weakening may use the values the two outcomes succeed with -/
theorem imp {R' : α → β → Prop} {x : Outcome α} {y : Outcome β} (h : Rel R x y)
    (hR : ∀ a b, x = ok a → y = ok b → R a b → R' a b) : Rel R' x y := by
  cases x <;> cases y <;> try exact h.elim
  · exact hR _ _ rfl rfl h
  · exact h
  · trivial
  · trivial

theorem ite {c : Prop} [Decidable c] {x x' : Outcome α} {y y' : Outcome β} (h : c → Rel R x y)
    (h' : ¬c → Rel R x' y') : Rel R (if c then x else x') (if c then y else y') := by
  split
  · exact h ‹_›
  · exact h' ‹_›

end Rel
end Outcome
end VK
