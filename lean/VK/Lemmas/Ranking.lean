/-
  `score_dict_to_ranking`: groups of equal score, strictly descending, the first of maximal and
  the last of minimal score; `lookupScore` on the forms of dictionary the rules build.
-/
import VK.Model.Utils
import VK.Lemmas.Partition
import Mathlib.Data.List.Sort
import Mathlib.Data.List.Perm.Basic
import Mathlib.Data.List.Count
import Mathlib.Algebra.Order.Field.Rat
import Mathlib.Tactic.Linarith

namespace VK

theorem mem_insertDesc (x y : Rat) (l : List Rat) : y ∈ insertDesc x l ↔ y = x ∨ y ∈ l := by
  induction l with
  | nil => simp [insertDesc]
  | cons z zs ih =>
    rw [insertDesc]
    split
    · exact List.mem_cons
    · split
      · next h => rw [h, List.mem_cons, or_self_left]
      · rw [List.mem_cons, ih, List.mem_cons, or_left_comm]

theorem mem_distinctDesc (y : Rat) (l : List Rat) : y ∈ distinctDesc l ↔ y ∈ l := by
  induction l with
  | nil => rfl
  | cons x xs ih => rw [distinctDesc, List.foldr_cons, mem_insertDesc, ← distinctDesc, ih, List.mem_cons]

theorem insertDesc_sorted (x : Rat) (l : List Rat) (h : l.Pairwise (· > ·)) :
    (insertDesc x l).Pairwise (· > ·) := by
  induction l with
  | nil => exact List.pairwise_singleton _ _
  | cons z zs ih =>
    obtain ⟨hz, hzs⟩ := List.pairwise_cons.1 h
    rw [insertDesc]
    split
    · next hlt =>
      refine List.pairwise_cons.2 ⟨fun a ha => ?_, h⟩
      rcases List.mem_cons.1 ha with rfl | ha
      · exact hlt
      · exact lt_trans (hz a ha) hlt
    · split
      · exact h
      · next hnlt hne =>
        refine List.pairwise_cons.2 ⟨fun a ha => ?_, ih hzs⟩
        rcases (mem_insertDesc x a zs).1 ha with rfl | ha
        · exact lt_of_le_of_ne (not_lt.1 hnlt) hne
        · exact hz a ha

theorem distinctDesc_sorted (l : List Rat) : (distinctDesc l).Pairwise (· > ·) := by
  induction l with
  | nil => exact List.Pairwise.nil
  | cons x xs ih => exact insertDesc_sorted x _ ih

theorem distinctDesc_nodup (l : List Rat) : (distinctDesc l).Nodup :=
  (distinctDesc_sorted l).imp (fun h => ne_of_gt h)

theorem distinctDesc_congr (l l' : List Rat) (h : ∀ y, y ∈ l ↔ y ∈ l') : distinctDesc l = distinctDesc l' := by
  apply List.Perm.eq_of_pairwise (le := (· > ·))
  · intro a b _ _ hab hba; exact absurd hab (not_lt.mpr (le_of_lt hba))
  · exact distinctDesc_sorted l
  · exact distinctDesc_sorted l'
  · apply (List.perm_ext_iff_of_nodup (distinctDesc_nodup l) (distinctDesc_nodup l')).mpr
    intro y; rw [mem_distinctDesc, mem_distinctDesc]; exact h y

def groupOf (sc : List (Cand × Rat)) (v : Rat) : List Cand := (sc.filter (fun cs => cs.2 = v)).map (·.1)

theorem mem_groupOf {sc : List (Cand × Rat)} {v : Rat} {c : Cand} : c ∈ groupOf sc v ↔ (c, v) ∈ sc := by
  simp [groupOf]

theorem groupOf_nodup (sc : List (Cand × Rat)) (hk : (sc.map (·.1)).Nodup) (v : Rat) : (groupOf sc v).Nodup :=
  hk.sublist (List.filter_sublist.map _)

theorem scoreToRanking_eq (sc : List (Cand × Rat)) :
    scoreToRanking sc true = (distinctDesc (sc.map (·.2))).map (groupOf sc) := rfl

theorem mem_scoreToRanking {sc : List (Cand × Rat)} {g : List Cand} :
    g ∈ scoreToRanking sc true ↔ ∃ v ∈ sc.map (·.2), groupOf sc v = g := by
  simp only [scoreToRanking_eq, List.mem_map, mem_distinctDesc]

theorem scoreToRanking_perm (sc : List (Cand × Rat)) :
    (scoreToRanking sc true).flatten.Perm (sc.map (·.1)) := by
  have h := flatMap_filter_key_perm (·.2) sc (distinctDesc (sc.map (·.2))) (distinctDesc_nodup _)
    (fun cs hcs => (mem_distinctDesc _ _).2 (List.mem_map_of_mem hcs))
  rw [scoreToRanking_eq, ← List.flatMap_def]
  exact List.map_flatMap ▸ h.map (·.1)

theorem scoreToRanking_perm_keys {sc : List (Cand × Rat)} {cands : List Cand} (hk : sc.map (·.1) = cands) :
    (scoreToRanking sc).flatten.Perm cands :=
  hk ▸ scoreToRanking_perm sc

theorem scoreToRanking_groups_nonempty (sc : List (Cand × Rat)) :
    ∀ g ∈ scoreToRanking sc true, g ≠ [] := by
  intro g hg
  obtain ⟨v, hv, rfl⟩ := mem_scoreToRanking.1 hg
  obtain ⟨cs, hcs, rfl⟩ := List.mem_map.1 hv
  exact List.ne_nil_of_mem (mem_groupOf.2 hcs)

theorem scoreToRanking_groups_nodup (sc : List (Cand × Rat)) (hk : (sc.map (·.1)).Nodup) :
    ∀ g ∈ scoreToRanking sc true, g.Nodup :=
  (List.nodup_flatten.1 ((scoreToRanking_perm sc).nodup_iff.2 hk)).1

theorem lookupScore_of_mem {sc : List (Cand × Rat)} (hk : (sc.map (·.1)).Nodup) {c : Cand} {v : Rat}
    (h : (c, v) ∈ sc) : lookupScore sc c = v := by
  unfold lookupScore
  cases hf : sc.find? (fun cs => cs.1 = c) with
  | none => simpa using List.find?_eq_none.1 hf (c, v) h
  | some cs =>
    rw [List.inj_on_of_nodup_map hk (List.mem_of_find?_eq_some hf) h (by simpa using List.find?_some hf)]

theorem lookupScore_groupOf {sc : List (Cand × Rat)} (hk : (sc.map (·.1)).Nodup) {c : Cand} {v : Rat}
    (h : c ∈ groupOf sc v) : lookupScore sc c = v :=
  lookupScore_of_mem hk (mem_groupOf.1 h)

/-- the members of one group of the score ranking share their score -/
theorem scoreToRanking_group_score {sc : List (Cand × Rat)} (hk : (sc.map (·.1)).Nodup) {g : List Cand}
    (hg : g ∈ scoreToRanking sc true) : ∃ v, ∀ c ∈ g, lookupScore sc c = v := by
  obtain ⟨v, -, rfl⟩ := mem_scoreToRanking.1 hg
  exact ⟨v, fun _ hc => lookupScore_groupOf hk hc⟩

theorem first_group_max (sc : List (Cand × Rat)) (g1 : List Cand) (rest : Ranking)
    (h : scoreToRanking sc = g1 :: rest) :
    ∃ v1, (∀ c ∈ g1, (c, v1) ∈ sc) ∧ ∀ cs ∈ sc, cs.2 ≤ v1 := by
  rw [scoreToRanking_eq] at h
  have hsorted := distinctDesc_sorted (sc.map (·.2))
  cases hd : distinctDesc (sc.map (·.2)) with
  | nil => rw [hd] at h; cases h
  | cons v1 vs =>
    rw [hd, List.map_cons, List.cons.injEq] at h
    rw [hd, List.pairwise_cons] at hsorted
    refine ⟨v1, fun c hc => mem_groupOf.1 (h.1 ▸ hc), fun cs hcs => ?_⟩
    have : cs.2 ∈ v1 :: vs := hd ▸ (mem_distinctDesc _ _).2 (List.mem_map_of_mem hcs)
    rcases List.mem_cons.1 this with h | h
    · exact le_of_eq h
    · exact le_of_lt (hsorted.1 _ h)

theorem last_group_min (sc : List (Cand × Rat)) (g : List Cand) (h : (scoreToRanking sc).getLast? = some g)
    (hk : (sc.map (·.1)).Nodup) :
    ∃ v0, (∀ c ∈ g, (c, v0) ∈ sc ∧ lookupScore sc c = v0) ∧ ∀ cs ∈ sc, v0 ≤ cs.2 := by
  rw [scoreToRanking_eq, List.getLast?_map] at h
  cases hd : (distinctDesc (sc.map (·.2))).getLast? with
  | none => rw [hd] at h; cases h
  | some v0 =>
    rw [hd, Option.map_some, Option.some.injEq] at h
    subst h
    refine ⟨v0, fun c hc => ⟨mem_groupOf.1 hc, lookupScore_groupOf hk hc⟩,
      fun cs hcs => ?_⟩
    -- the last of the strictly descending distinct scores is below all of them
    obtain ⟨ys, hys⟩ := List.getLast?_eq_some_iff.1 hd
    have hsorted := distinctDesc_sorted (sc.map (·.2))
    have hin := (mem_distinctDesc _ _).2 (List.mem_map_of_mem (f := (·.2)) hcs)
    rw [hys] at hsorted hin
    rcases List.mem_append.1 hin with h | h
    · exact le_of_lt ((List.pairwise_append.1 hsorted).2.2 _ h v0 (List.mem_singleton_self _))
    · exact le_of_eq (List.mem_singleton.1 h).symm

theorem lookupScore_filter_mem (sc : List (Cand × Rat)) (hk : (sc.map (·.1)).Nodup) (p : Cand × Rat → Bool) (c : Cand)
    (hc : c ∈ (sc.filter p).map (·.1)) : lookupScore (sc.filter p) c = lookupScore sc c := by
  obtain ⟨cs, hcs, rfl⟩ := List.mem_map.1 hc
  rw [lookupScore_of_mem (hk.sublist (List.filter_sublist.map _)) hcs,
    lookupScore_of_mem hk (List.mem_filter.1 hcs).1]

theorem lookupScore_filter (sc : List (Cand × Rat)) (P : Cand → Bool) (c : Cand) (hc : P c = true) :
    lookupScore (sc.filter (fun cs => P cs.1)) c = lookupScore sc c := by
  unfold lookupScore
  rw [List.find?_filter]
  congr 2
  funext cs
  by_cases h : cs.1 = c
  · simp only [h, hc, decide_true, and_self]
  · simp only [h, decide_false, Bool.false_eq_true, and_false]

theorem keys_map (l : List Cand) (F : Cand → Rat) : (l.map fun c => (c, F c)).map (·.1) = l := by
  rw [List.map_map]; exact List.map_id _

theorem lookupScore_map (l : List Cand) (f : Cand → Rat) (c : Cand) (hc : c ∈ l) :
    lookupScore (l.map (fun c => (c, f c))) c = f c := by
  unfold lookupScore
  induction l with
  | nil => cases hc
  | cons x xs ih =>
    rw [List.map_cons, List.find?_cons]
    by_cases hx : x = c
    · simp only [hx, decide_true]
    · simp only [hx, decide_false]
      exact ih ((List.mem_cons.1 hc).resolve_left (Ne.symm hx))

end VK
