/-
  The utility layer of the model commutes with an injective renaming of the candidates (C08, neutrality).
  Nothing here is specific to a rule: condensing, completing ballots, positional scores, score → ranking, tie
  breaking, `elect_cands_from_set_ranking`, `remove_cand`.
-/
import VK.Model.Rules
import VK.Lemmas.Elect
import Mathlib.Logic.Function.Basic
import Mathlib.Data.List.Basic
namespace VK

def renR (π : Cand → Cand) (r : Ranking) : Ranking := r.map (List.map π)
def renSc (π : Cand → Cand) (sc : List (Cand × Rat)) : List (Cand × Rat) := sc.map (fun cs => (π cs.1, cs.2))
def renB (π : Cand → Cand) (b : Ballot) : Ballot :=
  { ranking := renR π b.ranking, weight := b.weight, scores := renSc π b.scores }
def renP (π : Cand → Cand) (p : Profile) : Profile :=
  { ballots := p.ballots.map (renB π), cands := p.cands.map π }
def renTb (π : Cand → Cand) (t : List Cand × Ranking) : List Cand × Ranking := (t.1.map π, renR π t.2)
def renRS (π : Cand → Cand) (s : RoundState) : RoundState :=
  { round := s.round, remaining := renR π s.remaining, elected := renR π s.elected,
    eliminated := renR π s.eliminated, tiebreaks := s.tiebreaks.map (renTb π), scores := renSc π s.scores }

theorem filter_map_of {α β} (f : α → β) {P' : β → Bool} {P : α → Bool} (h : ∀ x, P' (f x) = P x) (l : List α) :
    (l.map f).filter P' = (l.filter P).map f := by
  rw [List.filter_map]; congr 2; exact funext h

section
variable (π : Cand → Cand)

@[simp] theorem renB_ranking (b : Ballot) : (renB π b).ranking = renR π b.ranking := rfl
@[simp] theorem renB_weight (b : Ballot) : (renB π b).weight = b.weight := rfl
@[simp] theorem renB_scores (b : Ballot) : (renB π b).scores = renSc π b.scores := rfl
@[simp] theorem renP_ballots (p : Profile) : (renP π p).ballots = p.ballots.map (renB π) := rfl
@[simp] theorem renP_cands (p : Profile) : (renP π p).cands = p.cands.map π := rfl
@[simp] theorem renRS_remaining (s : RoundState) : (renRS π s).remaining = renR π s.remaining := rfl
@[simp] theorem renRS_scores (s : RoundState) : (renRS π s).scores = renSc π s.scores := rfl
@[simp] theorem renR_cons (g : List Cand) (r : Ranking) : renR π (g :: r) = g.map π :: renR π r := rfl

theorem rankingValid_ren (p : Profile) : rankingValid (renP π p) = rankingValid p := by
  simp only [rankingValid, renP_ballots, List.all_map, Function.comp_def, renB_ranking, renR, List.isEmpty_map]

theorem flatten_renR (r : Ranking) : (renR π r).flatten = r.flatten.map π := List.map_flatten.symm

theorem singletons_ren (o : List Cand) : (o.map π).map (fun c => [c]) = renR π (o.map (fun c => [c])) := by
  simp only [renR, List.map_map, Function.comp_def, List.map_cons, List.map_nil]

variable (hπ : Function.Injective π)
include hπ

theorem contains_map_inj (l : List Cand) (c : Cand) : (l.map π).contains (π c) = l.contains c := by
  simp only [List.contains_eq_mem, List.mem_map_of_injective hπ]

theorem bne_map_inj (a b : Cand) : (π a != π b) = (a != b) := by
  rw [Bool.eq_iff_iff]; simp only [bne_iff_ne, ne_eq, hπ.eq_iff]

theorem map_inj_list : Function.Injective (List.map π) := List.map_injective_iff.mpr hπ

theorem renR_inj : Function.Injective (renR π) := List.map_injective_iff.mpr (map_inj_list π hπ)

theorem renSc_inj : Function.Injective (renSc π) :=
  List.map_injective_iff.mpr (hπ.prodMap Function.injective_id)

theorem filter_contains_map (l s : List Cand) :
    (l.map π).filter (fun c => (s.map π).contains c) = (l.filter (fun c => s.contains c)).map π :=
  filter_map_of π (contains_map_inj π hπ s) l

theorem filter_not_contains_map (l s : List Cand) :
    (l.map π).filter (fun c => !(s.map π).contains c) = (l.filter (fun c => !s.contains c)).map π :=
  filter_map_of π (fun c => congrArg not (contains_map_inj π hπ s c)) l

theorem filter_eq_map (l : List Cand) (c : Cand) :
    (l.map π).filter (fun x => x = π c) = (l.filter (fun x => x = c)).map π :=
  filter_map_of π (fun _ => decide_eq_decide.mpr hπ.eq_iff) l

def renC (π : Cand → Cand) (k : Content) : Content := (renR π k.1, renSc π k.2)

theorem renC_inj : Function.Injective (renC π) := (renR_inj π hπ).prodMap (renSc_inj π hπ)

theorem accAdd_ren (k : Content) (w : Rat) (acc : List (Content × Rat)) :
    accAdd (renC π k) w (acc.map (Prod.map (renC π) id)) =
      (accAdd k w acc).map (Prod.map (renC π) id) := by
  induction acc with
  | nil => rfl
  | cons a rest ih =>
    simp only [List.map_cons, accAdd, Prod.map_fst, Prod.map_snd, Prod.map_apply, id_eq, (renC_inj π hπ).eq_iff, ih,
      apply_ite (List.map _)]

theorem foldl_accAdd_ren (bs : List Ballot) (acc : List (Content × Rat)) :
    (bs.map (renB π)).foldl (fun acc b => accAdd b.content b.weight acc) (acc.map (Prod.map (renC π) id)) =
      (bs.foldl (fun acc b => accAdd b.content b.weight acc) acc).map (Prod.map (renC π) id) := by
  induction bs generalizing acc with
  | nil => rfl
  | cons b rest ih => rw [List.map_cons, List.foldl_cons, List.foldl_cons, ← ih, ← accAdd_ren π hπ]; rfl

theorem accumulate_ren (bs : List Ballot) :
    accumulate (bs.map (renB π)) = (accumulate bs).map (Prod.map (renC π) id) :=
  foldl_accAdd_ren π hπ bs []

theorem condense_ren (bs : List Ballot) : condense (bs.map (renB π)) = (condense bs).map (renB π) := by
  unfold condense
  rw [accumulate_ren π hπ, List.map_map, List.map_map]
  rfl

theorem missingCands_ren (cands : List Cand) (r : Ranking) :
    missingCands (cands.map π) (renR π r) = (missingCands cands r).map π := by
  unfold missingCands
  rw [flatten_renR π]
  exact filter_not_contains_map π hπ cands r.flatten

theorem addMissingBallot_ren (cands : List Cand) (b : Ballot) :
    addMissingBallot (cands.map π) (renB π b) = renB π (addMissingBallot cands b) := by
  simp only [addMissingBallot, renB_ranking, renB_weight, missingCands_ren π hπ, List.isEmpty_map]
  simp only [renB, renSc, renR, apply_ite (List.map _), List.map_append, List.map_cons, List.map_nil]

theorem addMissing_ren (p : Profile) : addMissing (renP π p) = (addMissing p).map (renP π) := by
  simp only [addMissing, renP_ballots, renP_cands, List.any_map, Function.comp_def, renB_ranking, renR,
    List.isEmpty_map]
  refine Outcome.ite_map rfl ?_
  simp only [Outcome.map_ok, renP, ← condense_ren π hπ, List.map_map, Function.comp_def, addMissingBallot_ren π hπ]

omit hπ in
theorem positionAlloc_ren (v : List Rat) (i : Nat) (r : Ranking) :
    positionAlloc v i (renR π r) = (positionAlloc v i r).map (fun sa => (sa.1.map π, sa.2)) := by
  induction r generalizing i with
  | nil => rfl
  | cons s rest ih => simp only [renR_cons, positionAlloc, List.length_map, ih, List.map_cons]

theorem ballotPoints_ren (v : List Rat) (r : Ranking) (c : Cand) :
    ballotPoints v (renR π r) (π c) = ballotPoints v r c := by
  unfold ballotPoints
  simp only [positionAlloc_ren π, List.filter_map, List.map_map, Function.comp_def, contains_map_inj π hπ]

theorem scoreFromRankings_ren (p : Profile) (v : List Rat) :
    scoreFromRankings (renP π p) v = (scoreFromRankings p v).map (renSc π) := by
  unfold scoreFromRankings
  rw [renP_cands, List.length_map]
  refine Outcome.ite_map rfl (Outcome.bind_map_comm _ (addMissing_ren π hπ p) fun p' _ => ?_)
  simp only [Outcome.pure_eq, Outcome.map_ok, renSc, renP_cands, renP_ballots, List.map_map, Function.comp_def,
    renB_ranking, renB_weight, ballotPoints_ren π hπ]

theorem firstPlaceVotes_ren (p : Profile) : firstPlaceVotes (renP π p) = (firstPlaceVotes p).map (renSc π) := by
  unfold firstPlaceVotes
  rw [renP_cands, List.length_map, scoreFromRankings_ren π hπ]

theorem bordaScores_ren (p : Profile) : bordaScores (renP π p) = (bordaScores p).map (renSc π) := by
  unfold bordaScores
  rw [renP_cands, List.length_map, scoreFromRankings_ren π hπ]

omit hπ in
theorem scoreToRanking_ren (sc : List (Cand × Rat)) (hl : Bool) :
    scoreToRanking (renSc π sc) hl = renR π (scoreToRanking sc hl) := by
  unfold scoreToRanking renSc renR
  simp only [List.map_map, Function.comp_def, List.filter_map]

theorem lookupScore_ren (sc : List (Cand × Rat)) (c : Cand) : lookupScore (renSc π sc) (π c) = lookupScore sc c := by
  unfold lookupScore renSc
  simp only [List.find?_map, Function.comp_def, hπ.eq_iff]
  cases sc.find? (fun cs => cs.1 = c) <;> rfl

theorem filter_scores_ren (sc : List (Cand × Rat)) (s : List Cand) :
    (renSc π sc).filter (fun cs => (s.map π).contains cs.1) = renSc π (sc.filter (fun cs => s.contains cs.1)) := by
  simp only [renSc, List.filter_map, Function.comp_def, contains_map_inj π hπ]

theorem orderBy_ren (pri s : List Cand) :
    orderBy (pri.map π) (s.map π) = (orderBy pri s).map (List.map π) := by
  unfold orderBy
  simp only [filter_contains_map π hπ, filter_eq_map π hπ, List.length_map, List.all_map, Function.comp_def,
    apply_ite (Outcome.map _), Outcome.map_ok, Outcome.map_mismatch]

theorem breakGroup_ren (pri g : List Cand) :
    breakGroup (pri.map π) (g.map π) = (breakGroup pri g).map (renR π) := by
  unfold breakGroup
  rw [List.length_map]
  exact Outcome.ite_map rfl
    (Outcome.bind_map_comm _ (orderBy_ren π hπ pri g) fun o _ => congrArg Outcome.ok (singletons_ren π o))

theorem breakGroups_ren (pri : List Cand) (r : Ranking) :
    breakGroups (pri.map π) (renR π r) = (breakGroups pri r).map (renR π) := by
  induction r with
  | nil => rfl
  | cons g gs ih =>
    refine Outcome.bind_map_comm _ (breakGroup_ren π hπ pri g) fun a _ => ?_
    refine Outcome.bind_map_comm _ ih fun b _ => ?_
    exact congrArg Outcome.ok List.map_append.symm

theorem tiebreakSet_ren (pri s : List Cand) (prof : Option Profile) (tb : TB) :
    tiebreakSet (pri.map π) (s.map π) (prof.map (renP π)) tb = (tiebreakSet pri s prof tb).map (renR π) := by
  cases tb with
  | random =>
    exact Outcome.bind_map_comm _ (orderBy_ren π hπ pri s) fun o _ => congrArg Outcome.ok (singletons_ren π o)
  | borda | firstPlace =>
    cases prof with
    | none => rfl
    | some p =>
      simp only [tiebreakSet, Option.map_some, if_true, reduceCtorEq, if_false, bordaScores_ren π hπ,
        firstPlaceVotes_ren π hπ]
      refine Outcome.bind_map_comm _ rfl fun sc _ => ?_
      rw [filter_scores_ren π hπ, scoreToRanking_ren π, breakGroups_ren π hπ]

def renER (π : Cand → Cand) (r : ElectResult) : ElectResult :=
  { elected := renR π r.elected, remaining := renR π r.remaining, tiebreak := r.tiebreak.map (renTb π) }

theorem electLoop_ren (pri : List Cand) (prof : Option Profile) (tb : Option TB) (k : Nat) (acc r : Ranking) :
    electLoop (pri.map π) (prof.map (renP π)) tb k (renR π acc) (renR π r) =
      (electLoop pri prof tb k acc r).map (renER π) := by
  have hstop (acc rest : Ranking) : (Outcome.ok ⟨(renR π acc).reverse, renR π rest, none⟩ : Outcome ElectResult) =
      (Outcome.ok ⟨acc.reverse, rest, none⟩).map (renER π) :=
    congrArg Outcome.ok (congrArg (ElectResult.mk · _ _) List.map_reverse.symm)
  induction r generalizing k acc with
  | nil =>
    simp only [renR, List.map_nil, electLoop]
    exact Outcome.ite_map (hstop acc []) rfl
  | cons g rest ih =>
    simp only [renR_cons, electLoop, List.length_map]
    refine Outcome.ite_map (hstop acc (g :: rest)) (Outcome.ite_map (ih _ (g :: acc)) ?_)
    cases tb with
    | none => rfl
    | some t =>
      refine Outcome.bind_map_comm _ (tiebreakSet_ren π hπ pri g prof t) fun broken _ => ?_
      simp only [Outcome.pure_eq, Outcome.map_ok, renER, renR, renTb, Option.map_some,
        List.map_append, List.map_reverse, List.map_take, List.map_drop]

theorem electFromRanking_ren (pri : List Cand) (r : Ranking) (m : Nat) (prof : Option Profile) (tb : Option TB) :
    electFromRanking (pri.map π) (renR π r) m (prof.map (renP π)) tb =
      (electFromRanking pri r m prof tb).map (renER π) := by
  unfold electFromRanking
  rw [flatten_renR π, List.length_map]
  exact Outcome.ite_map rfl (Outcome.ite_map rfl (electLoop_ren π hπ pri prof tb m [] r))

theorem scrubRanking_ren (removed : List Cand) (r : Ranking) :
    scrubRanking (removed.map π) (renR π r) = renR π (scrubRanking removed r) := by
  simp only [scrubRanking, renR, List.map_map, List.filter_map, Function.comp_def, filter_not_contains_map π hπ,
    List.isEmpty_map]

theorem scrubScores_ren (removed : List Cand) (sc : Scores) :
    scrubScores (removed.map π) (renSc π sc) = renSc π (scrubScores removed sc) := by
  simp only [scrubScores, renSc, List.filter_map, Function.comp_def, contains_map_inj π hπ]

theorem scrubBallot_ren (removed : List Cand) (b : Ballot) :
    scrubBallot (removed.map π) (renB π b) = renB π (scrubBallot removed b) := by
  unfold scrubBallot
  simp only [renB_ranking, renB_scores, renB_weight, scrubRanking_ren π hπ, scrubScores_ren π hπ]
  simp only [renR, renSc, List.isEmpty_map, apply_ite (renB π)]
  rfl

theorem removeCandBallots_ren (removed : List Cand) (bs : List Ballot) (cond leaveZero : Bool) :
    removeCandBallots (removed.map π) (bs.map (renB π)) cond leaveZero =
      (removeCandBallots removed bs cond leaveZero).map (renB π) := by
  have hm : (bs.map (renB π)).map (scrubBallot (removed.map π)) = (bs.map (scrubBallot removed)).map (renB π) := by
    simp only [List.map_map, Function.comp_def, scrubBallot_ren π hπ]
  have hf (l : List Ballot) : (l.map (renB π)).filter (fun b => decide (0 < b.weight)) =
      (l.filter (fun b => decide (0 < b.weight))).map (renB π) := filter_map_of (renB π) (fun _ => rfl) l
  simp only [removeCandBallots, scrubBallots, hm, hf, ← apply_ite (List.map (renB π)), condense_ren π hπ]

theorem removeCand_ren (removed : List Cand) (p : Profile) (cond leaveZero : Bool) :
    removeCand (removed.map π) (renP π p) cond leaveZero = renP π (removeCand removed p cond leaveZero) := by
  unfold removeCand
  rw [renP_ballots, renP_cands, removeCandBallots_ren π hπ, filter_not_contains_map π hπ]
  rfl

theorem scoreFromBallotScores_ren (p : Profile) :
    scoreFromBallotScores (renP π p) = (scoreFromBallotScores p).map (renSc π) := by
  unfold scoreFromBallotScores
  simp only [renP_ballots, renP_cands, List.any_map, Function.comp_def, renB_scores, renB_weight, renSc,
    List.isEmpty_map, contains_map_inj π hπ, List.map_map, List.filter_map, hπ.eq_iff, apply_ite (Outcome.map _),
    Outcome.map_ok, Outcome.map_raised]

end

theorem electRound_ren (π : Cand → Cand) (hπ : Function.Injective π) (p : Profile) (m : Nat) (tb : Option TB)
    (pri : List Cand) (score : Profile → Outcome (List (Cand × Rat)))
    (hscore : ∀ q, score (renP π q) = (score q).map (renSc π)) (st0 : RoundState) (rk : Ranking) :
    electRound (renP π p) m tb (pri.map π) score (renRS π st0) (renR π rk) =
      (electRound p m tb pri score st0 rk).map (List.map (renRS π)) := by
  refine Outcome.bind_map_comm _ (electFromRanking_ren π hπ pri rk m (some p) tb) fun r _ => ?_
  simp only [renER, flatten_renR, removeCand_ren π hπ]
  refine Outcome.bind_map_comm _ (hscore _) fun sc1 _ => ?_
  obtain ⟨e, rm, t⟩ := r
  cases t <;> rfl
end VK
