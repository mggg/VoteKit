/-
  The code computes head-to-head counts by expanding every short ballot into all
  its completions (`ballot_fill`); this file proves that the result is the declarative share:
  listed beats unlisted, two unlisted candidates split the ballot evenly.

  Every "a over b" share is brought to the form `beforeIn`; the one counting fact is that swapping
  `a` and `b` permutes the orders of a set containing both, so half of them put `a` first.
-/
import VK.Model.Pairwise
import VK.Props.C12
import Mathlib.Data.List.Perm.Subperm

namespace VK

theorem findIdx_lt_length_iff {o : List Cand} {c : Cand} : o.findIdx (· = c) < o.length ↔ c ∈ o := by
  rw [List.findIdx_lt_length]; simp

theorem findIdx_of_not_mem {o : List Cand} {c : Cand} (h : c ∉ o) : o.findIdx (· = c) = o.length :=
  List.findIdx_eq_length.2 fun _ hx => decide_eq_false fun e => h (e ▸ hx)

theorem findIdx_append_eq (p t : List Cand) (c : Cand) :
    (p ++ t).findIdx (· = c) = if c ∈ p then p.findIdx (· = c) else p.length + t.findIdx (· = c) := by
  rw [List.findIdx_append, Nat.add_comm]; simp only [findIdx_lt_length_iff]

theorem findIdx_ne {o : List Cand} {a b : Cand} (hab : a ≠ b) (ha : a ∈ o) :
    o.findIdx (· = a) ≠ o.findIdx (· = b) := by
  intro e
  have hia := findIdx_lt_length_iff.2 ha
  have h1 := List.findIdx_getElem (w := hia)
  have h2 := List.findIdx_getElem (w := e ▸ hia)
  simp only [decide_eq_true_eq] at h1 h2
  exact hab (by rw [← h1, ← h2]; simp only [e])

theorem findIdx_map_inj {f : Cand → Cand} (hf : Function.Injective f) (o : List Cand) (c : Cand) :
    (o.map f).findIdx (· = f c) = o.findIdx (· = c) := by
  rw [List.findIdx_map]
  exact congrArg (List.findIdx · o) (funext fun x => decide_eq_decide.2 hf.eq_iff)

theorem posOf_eq (r : List Cand) (c : Cand) :
    posOf r c = if c ∈ r then some (r.findIdx (· = c)) else none := by
  simp only [posOf, findIdx_lt_length_iff]

/-- "a comes before b" in an order; an unlisted candidate counts as coming after all listed ones -/
def beforeIn (o : List Cand) (a b : Cand) : Rat := if o.findIdx (· = a) < o.findIdx (· = b) then 1 else 0

theorem beforeIn_of_not_mem {o : List Cand} {a : Cand} (h : a ∉ o) (b : Cand) : beforeIn o a b = 0 :=
  if_neg (by rw [findIdx_of_not_mem h]; exact List.findIdx_le_length.not_gt)

theorem beforeIn_of_mem_of_not_mem {o : List Cand} {a b : Cand} (ha : a ∈ o) (hb : b ∉ o) :
    beforeIn o a b = 1 :=
  if_pos (by rw [findIdx_of_not_mem hb]; exact findIdx_lt_length_iff.2 ha)

theorem beforeIn_add {o : List Cand} {a b : Cand} (hab : a ≠ b) (h : a ∈ o ∨ b ∈ o) :
    beforeIn o a b + beforeIn o b a = 1 := by
  have hne : o.findIdx (· = a) ≠ o.findIdx (· = b) :=
    h.elim (findIdx_ne hab) fun hb => (findIdx_ne hab.symm hb).symm
  unfold beforeIn
  rcases Nat.lt_or_gt_of_ne hne with h | h
  · rw [if_pos h, if_neg (Nat.lt_asymm h), add_zero]
  · rw [if_neg (Nat.lt_asymm h), if_pos h, zero_add]

theorem beforeIn_append (p t : List Cand) (a b : Cand) :
    beforeIn (p ++ t) a b = if a ∈ p ∨ b ∈ p then beforeIn p a b else beforeIn t a b := by
  have hb := @List.findIdx_le_length _ (· = b) p
  unfold beforeIn
  rw [findIdx_append_eq, findIdx_append_eq]
  by_cases ha : a ∈ p <;> by_cases hb' : b ∈ p <;> simp only [ha, hb', if_true, if_false, or_self, or_true, true_or]
  · have := findIdx_lt_length_iff.2 ha
    rw [findIdx_of_not_mem hb', if_pos this, if_pos (by omega)]
  · rw [findIdx_of_not_mem ha, if_neg (by omega), if_neg (by omega)]
  · simp only [Nat.add_lt_add_iff_left]

theorem beforeIn_map {f : Cand → Cand} (hf : Function.Injective f) (o : List Cand) (a b : Cand) :
    beforeIn (o.map f) (f a) (f b) = beforeIn o a b := by
  unfold beforeIn; rw [findIdx_map_inj hf, findIdx_map_inj hf]

/-- what a *complete* ranking gives to "a over b" -/
def cshare (r : List Cand) (a b : Cand) : Rat :=
  match posOf r a, posOf r b with
  | some i, some j => if i < j then 1 else 0
  | some _, none => 1
  | _, _ => 0

theorem cshare_eq (r : List Cand) (a b : Cand) : cshare r a b = beforeIn r a b := by
  unfold cshare
  rw [posOf_eq, posOf_eq]
  by_cases ha : a ∈ r
  · by_cases hb : b ∈ r
    · simp only [ha, hb, if_true]; rfl
    · simp only [ha, hb, if_true, if_false, beforeIn_of_mem_of_not_mem ha hb]
  · simp only [ha, if_false, beforeIn_of_not_mem ha]

theorem prefShare_eq (r : List Cand) (a b : Cand) :
    prefShare r a b = if a ∈ r ∨ b ∈ r then beforeIn r a b else 1 / 2 := by
  unfold prefShare
  rw [posOf_eq, posOf_eq]
  by_cases ha : a ∈ r <;> by_cases hb : b ∈ r <;> simp only [ha, hb, if_true, if_false, or_self, or_true, true_or]
  · rfl
  · exact (beforeIn_of_mem_of_not_mem ha hb).symm
  · exact (beforeIn_of_not_mem ha b).symm

theorem map_swap_perm {s : List Cand} (hs : s.Nodup) {a b : Cand} (ha : a ∈ s) (hb : b ∈ s) :
    (s.map (Equiv.swap a b)).Perm s := by
  refine (List.subperm_of_subset (hs.map (Equiv.swap a b).injective) fun c hc => ?_).perm_of_length_le
    (by rw [List.length_map])
  obtain ⟨x, hx, rfl⟩ := List.mem_map.1 hc
  rw [Equiv.swap_apply_def]
  split_ifs <;> assumption

theorem rsum_perms_swap (F : List Cand → Rat) {s : List Cand} (hs : s.Nodup) {a b : Cand}
    (ha : a ∈ s) (hb : b ∈ s) :
    rsum ((perms s).map (fun o => F (o.map (Equiv.swap a b)))) = rsum ((perms s).map F) := by
  have h : ((perms s).map (List.map (Equiv.swap a b))).Perm (perms s) := by
    rw [perms_eq, List.map_permutations']
    exact (map_swap_perm hs ha hb).permutations'
  rw [← rsum_map_perm h F, List.map_map]; rfl

theorem sum_before_half (miss : List Cand) (a b : Cand) (hab : a ≠ b) (hm : miss.Nodup) (ha : a ∈ miss) (hb : b ∈ miss) :
    2 * rsum ((perms miss).map (fun o => beforeIn o a b)) = ((perms miss).length : Rat) := by
  have hswap : rsum ((perms miss).map (fun o => beforeIn o b a)) =
      rsum ((perms miss).map (fun o => beforeIn o a b)) := by
    rw [← rsum_perms_swap (fun o => beforeIn o a b) hm ha hb]
    refine congrArg rsum (List.map_congr_left fun o _ => ?_)
    have := beforeIn_map (Equiv.swap a b).injective o b a
    rw [Equiv.swap_apply_right, Equiv.swap_apply_left] at this
    exact this.symm
  have hone : rsum ((perms miss).map (fun o => beforeIn o a b + beforeIn o b a)) = (perms miss).length := by
    rw [List.map_congr_left fun o ho =>
      beforeIn_add hab (Or.inl (((mem_perms_iff miss o).1 ho).mem_iff.2 ha)), rsum_const_mul, mul_one]
  rw [rsum_map_add, hswap] at hone
  rw [two_mul]; exact hone

/-- the completions of `r` by the orders of `miss` put `a` before `b` as often as `prefShare r a b`
says, when each of the two is listed by `r` or is in `miss` -/
theorem sum_completions (r miss : List Cand) (a b : Cand) (hab : a ≠ b) (hm : miss.Nodup)
    (ha : a ∈ r ∨ a ∈ miss) (hb : b ∈ r ∨ b ∈ miss) :
    rsum ((perms miss).map (fun o => beforeIn (r ++ o) a b)) =
      ((perms miss).length : Rat) * prefShare r a b := by
  simp only [beforeIn_append, prefShare_eq]
  split_ifs with h
  · rw [rsum_const_mul]
  · have := sum_before_half miss a b hab hm (ha.resolve_left fun h' => h (Or.inl h'))
      (hb.resolve_left fun h' => h (Or.inr h'))
    rw [← this]; ring

/-- one ballot: its completions, with their equal weights, give the declarative share -/
theorem fill_one (cands : List Cand) (bl : Ballot) (a b : Cand) (hc : cands.Nodup) (hab : a ≠ b)
    (ha : a ∈ cands) (hb : b ∈ cands)
    (hrn : bl.ranking.flatten.Nodup) (hrs : ∀ c ∈ bl.ranking.flatten, c ∈ cands)
    (hlen : bl.ranking.length = bl.ranking.flatten.length) :
    rsum ((fillBallot cands bl).map (fun rw => cshare rw.1 a b * rw.2)) =
      prefShare bl.ranking.flatten a b * bl.weight := by
  simp only [fillBallot, cshare_eq]
  split_ifs with hshort
  · have hmiss : ∀ c ∈ cands, c ∈ bl.ranking.flatten ∨
        c ∈ cands.filter (fun c => !bl.ranking.flatten.contains c) := fun c h =>
      (em (c ∈ bl.ranking.flatten)).imp_right fun h' => List.mem_filter.2
        ⟨h, by rwa [Bool.not_eq_true', ← Bool.not_eq_true, List.contains_iff_mem]⟩
    have hK : ((perms (cands.filter fun c => !bl.ranking.flatten.contains c)).length : Rat) ≠ 0 := by
      rw [perms_length]; exact fact_ne_zero _
    rw [List.map_map]
    simp only [Function.comp_def]
    rw [rsum_map_mul_right, sum_completions _ _ a b hab (hc.filter _) (hmiss a ha) (hmiss b hb),
      mul_right_comm, mul_div_cancel₀ _ hK, mul_comm]
  · -- a ballot as long as the candidate list ranks everybody
    have h := (List.subperm_of_subset hrn hrs).perm_of_length_le (by omega)
    rw [prefShare_eq, if_pos (Or.inl (h.mem_iff.2 ha))]
    simp

/-- the summand of `h2hFill` -/
theorem h2hFill_summand (r : List Cand) (w : Rat) (a b : Cand) :
    (match posOf r a, posOf r b with
      | some i, some j => if i < j then w else 0
      | some _, none => w
      | _, _ => 0) = cshare r a b * w := by
  unfold cshare
  cases posOf r a with
  | none => simp
  | some i =>
    cases posOf r b with
    | none => simp
    | some j => by_cases h : i < j <;> simp [h]

/-- **`ballot_fill` computes the declarative head-to-head count.** For a profile of untied ranked
ballots over duplicate-free declared candidates and two different declared candidates, counting
"a above b" on the profile in which every short ballot is replaced by all its completions (equal
weights) gives exactly: listed beats unlisted, two unlisted candidates split the ballot evenly. -/
theorem h2hFill_eq_h2hFlat (p : Profile) (a b : Cand) (hc : p.cands.Nodup) (hab : a ≠ b)
    (ha : a ∈ p.cands) (hb : b ∈ p.cands)
    (hrn : ∀ bl ∈ p.ballots, bl.ranking.flatten.Nodup)
    (hrs : ∀ bl ∈ p.ballots, ∀ c ∈ bl.ranking.flatten, c ∈ p.cands)
    (hlen : ∀ bl ∈ p.ballots, bl.ranking.length = bl.ranking.flatten.length) :
    h2hFill p a b = h2hFlat p a b := by
  refine (congrArg rsum (List.map_congr_left fun rw _ => h2hFill_summand rw.1 rw.2 a b)).trans ?_
  rw [rsum_flatMap]
  exact congrArg rsum (List.map_congr_left fun bl h =>
    fill_one p.cands bl a b hc hab ha hb (hrn bl h) (hrs bl h) (hlen bl h))

end VK
