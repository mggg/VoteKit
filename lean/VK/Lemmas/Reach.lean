/-
  The bounded frontier expansion `reach` computes exactly reachability
  (saturation by cardinality).
-/
import VK.Lemmas.Tiers

namespace VK
open Tiers

theorem iter_succ {α} (f : α → α) (n : Nat) (x : α) : iter f (n + 1) x = f (iter f n x) := by
  induction n generalizing x with
  | zero => rfl
  | succ k ih => exact ih (f x)

theorem iter_add {α} (f : α → α) (m n : Nat) (x : α) : iter f (m + n) x = iter f m (iter f n x) := by
  induction m with
  | zero => simp [iter]
  | succ k ih => rw [Nat.succ_add, iter_succ, iter_succ, ih]

section
variable (cands : List Cand) (E : Cand → Cand → Bool)

theorem mem_expand (seen : List Cand) (b : Cand) :
    b ∈ expand cands E seen ↔ b ∈ cands ∧ (b ∈ seen ∨ ∃ a ∈ seen, E a b = true) := by
  simp [expand, List.mem_filter, List.any_eq_true]

theorem expand_congr (S T : List Cand) (h : ∀ x, x ∈ S ↔ x ∈ T) : expand cands E S = expand cands E T :=
  List.filter_congr fun b _ => by
    rw [Bool.eq_iff_iff]
    simp only [Bool.or_eq_true, List.contains_iff_mem, List.any_eq_true, h]

def frontier (a : Cand) (k : Nat) : List Cand := iter (expand cands E) k (cands.filter (· = a))

theorem frontier_succ (a : Cand) (k : Nat) :
    frontier cands E a (k + 1) = expand cands E (frontier cands E a k) := iter_succ _ _ _

/-- Every frontier is `cands` filtered by some predicate. That keeps it inside `cands`, bounds its length
by `cands.length` without asking for `cands.Nodup`, and lets `filter_length_lt` compare two rounds. -/
theorem frontier_isFilter (a : Cand) (k : Nat) : ∃ p : Cand → Bool, frontier cands E a k = cands.filter p := by
  cases k with
  | zero => exact ⟨_, rfl⟩
  | succ k => exact ⟨_, frontier_succ cands E a k⟩

theorem frontier_subset (a : Cand) (k : Nat) : ∀ x ∈ frontier cands E a k, x ∈ cands := by
  obtain ⟨p, hp⟩ := frontier_isFilter cands E a k
  intro x hx; rw [hp] at hx; exact (List.mem_filter.1 hx).1

theorem frontier_mono (a : Cand) (k : Nat) :
    ∀ x ∈ frontier cands E a k, x ∈ frontier cands E a (k + 1) := fun x hx => by
  rw [frontier_succ, mem_expand]
  exact ⟨frontier_subset cands E a k x hx, Or.inl hx⟩

theorem frontier_sound (a : Cand) (k : Nat) :
    ∀ b ∈ frontier cands E a k, a ∈ cands ∧ R cands E a b := by
  induction k with
  | zero =>
    intro b hb
    obtain ⟨h1, h2⟩ := List.mem_filter.1 hb
    rw [of_decide_eq_true h2] at h1
    exact ⟨h1, of_decide_eq_true h2 ▸ .refl⟩
  | succ k ih =>
    intro b hb
    rw [frontier_succ, mem_expand] at hb
    obtain ⟨hbc, h | ⟨c, hc, hE⟩⟩ := hb
    · exact ih b h
    · obtain ⟨ha, hac⟩ := ih c hc
      exact ⟨ha, hac.tail ⟨frontier_subset cands E a k c hc, hbc, hE⟩⟩

/-- round `k + 1` adds nothing -/
def Closed (a : Cand) (k : Nat) : Prop := ∀ x ∈ frontier cands E a (k + 1), x ∈ frontier cands E a k

theorem closed_succ (a : Cand) (k : Nat) (hc : Closed cands E a k) : Closed cands E a (k + 1) := by
  have h : ∀ x, x ∈ frontier cands E a (k + 1) ↔ x ∈ frontier cands E a k :=
    fun x => ⟨hc x, frontier_mono cands E a k x⟩
  intro x hx
  rwa [frontier_succ, expand_congr cands E _ _ h, ← frontier_succ] at hx

theorem frontier_grows (a : Cand) (k : Nat) (hnc : ¬ Closed cands E a k) :
    (frontier cands E a k).length < (frontier cands E a (k + 1)).length := by
  unfold Closed at hnc
  push Not at hnc
  obtain ⟨x, hx1, hx0⟩ := hnc
  obtain ⟨p, hp⟩ := frontier_isFilter cands E a k
  have hxc : x ∈ cands := frontier_subset cands E a (k + 1) x hx1
  rw [frontier_succ] at hx1 ⊢
  rw [hp] at hx0 hx1 ⊢
  refine filter_length_lt (a := x) (fun c hcc hc => ?_) hxc (List.mem_filter.1 hx1).2
    (Bool.eq_false_iff.2 fun h => hx0 (List.mem_filter.2 ⟨hxc, h⟩))
  rw [Bool.or_eq_true, List.contains_iff_mem]
  exact Or.inl (List.mem_filter.2 ⟨hcc, hc⟩)

/-- as long as rounds add something, round `k` has found more than `k` candidates -/
theorem frontier_long (a : Cand) (ha : a ∈ cands) (k : Nat) (hnc : ¬ Closed cands E a k) :
    k + 1 < (frontier cands E a (k + 1)).length := by
  induction k with
  | zero =>
    have : a ∈ frontier cands E a 0 := List.mem_filter.2 ⟨ha, decide_eq_true rfl⟩
    exact Nat.lt_of_le_of_lt (List.length_pos_of_mem this) (frontier_grows cands E a 0 hnc)
  | succ k ih =>
    exact Nat.lt_of_le_of_lt (ih fun h => hnc (closed_succ cands E a k h)) (frontier_grows cands E a _ hnc)

theorem frontier_final_closed (a : Cand) (ha : a ∈ cands) : Closed cands E a cands.length := by
  by_contra hnc
  obtain ⟨p, hp⟩ := frontier_isFilter cands E a (cands.length + 1)
  have := frontier_long cands E a ha _ hnc
  rw [hp] at this
  exact absurd (List.length_filter_le p cands) (by omega)

theorem mem_reach (a b : Cand) : b ∈ reach cands E a ↔ a ∈ cands ∧ R cands E a b := by
  refine ⟨frontier_sound cands E a cands.length b, ?_⟩
  rintro ⟨ha, hab⟩
  induction hab with
  | refl =>
    have : ∀ k, a ∈ frontier cands E a k := fun k => by
      induction k with
      | zero => exact List.mem_filter.2 ⟨ha, decide_eq_true rfl⟩
      | succ k ih => exact frontier_mono cands E a k a ih
    exact this _
  | @tail c b' _ hcb ih =>
    refine frontier_final_closed cands E a ha b' ?_
    rw [frontier_succ, mem_expand]
    exact ⟨hcb.2.1, Or.inr ⟨c, ih, hcb.2.2⟩⟩

theorem reach_sublist (a : Cand) : (reach cands E a).Sublist cands := by
  obtain ⟨p, hp⟩ := frontier_isFilter cands E a cands.length
  exact (show reach cands E a = cands.filter p from hp) ▸ List.filter_sublist

open Classical in
/-- as lists: `reach` is the candidate list filtered by reachability -/
theorem reach_eq_filter (a : Cand) (ha : a ∈ cands) :
    reach cands E a = cands.filter (fun b => decide (R cands E a b)) := by
  obtain ⟨p, hp⟩ := frontier_isFilter cands E a cands.length
  refine hp.trans (List.filter_congr fun b hb => ?_)
  have h := mem_reach cands E a b
  rw [show reach cands E a = cands.filter p from hp, List.mem_filter] at h
  rw [Bool.eq_iff_iff, decide_eq_true_eq]
  exact ⟨fun hpb => (h.1 ⟨hb, hpb⟩).2, fun hr => (h.2 ⟨ha, hr⟩).2⟩

theorem reachCount_eq_rc (a : Cand) (ha : a ∈ cands) : reachCount cands E a = rc cands E a := by
  unfold reachCount rc
  rw [reach_eq_filter cands E a ha]

end
end VK
