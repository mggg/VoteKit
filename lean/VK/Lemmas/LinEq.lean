/-
  Two ballot lists that give every ranking the same total weight (one is a reordering, splitting or merging of
  the other) drive the STV count through the same rounds. The lifting from one transfer to a round, a step and
  the whole loop is proved for any relation on ballot lists the count cannot see through (`Blind`); `LinEq` is
  such a relation for the fractional and the full-weight transfer.
-/
import VK.Lemmas.PSC
import VK.Lemmas.FpvLink
import VK.Lemmas.STVEqns

namespace VK

def lsum (f : List Cand → Rat) (bs : List PBallot) : Rat := rsum (bs.map (fun b => f b.1 * b.2))

def LinEq (bs bs' : List PBallot) : Prop := ∀ f : List Cand → Rat, lsum f bs = lsum f bs'

theorem lsum_nil (f : List Cand → Rat) : lsum f [] = 0 := rfl
theorem lsum_cons (f : List Cand → Rat) (b : PBallot) (bs : List PBallot) :
    lsum f (b :: bs) = f b.1 * b.2 + lsum f bs := rfl

theorem lsum_append (f : List Cand → Rat) (a b : List PBallot) : lsum f (a ++ b) = lsum f a + lsum f b := by
  unfold lsum; simp

theorem LinEq.refl (bs : List PBallot) : LinEq bs bs := fun _ => rfl
theorem LinEq.symm {a b : List PBallot} (h : LinEq a b) : LinEq b a := fun f => (h f).symm
theorem LinEq.trans {a b c : List PBallot} (h1 : LinEq a b) (h2 : LinEq b c) : LinEq a c :=
  fun f => (h1 f).trans (h2 f)

theorem LinEq.of_perm {a b : List PBallot} (h : a.Perm b) : LinEq a b := fun _ => rsum_map_perm h _

theorem LinEq.of_split (r : List Cand) (w1 w2 : Rat) (rest : List PBallot) :
    LinEq ((r, w1 + w2) :: rest) ((r, w1) :: (r, w2) :: rest) := by
  intro f
  simp only [lsum_cons]; ring

theorem wsum_eq_lsum (pr : List Cand → Bool) (bs : List PBallot) :
    wsum (fun b => pr b.1) bs = lsum (fun r => if pr r then 1 else 0) bs := by
  unfold wsum lsum
  rw [rsum_filter_map_eq_ite]
  simp only [ite_mul, one_mul, zero_mul]

theorem tally_eq_lsum (bs : List PBallot) (hop : List Cand) (c : Cand) :
    tally bs hop c = lsum (fun r => if topOf hop r = some c then 1 else 0) bs := by
  rw [tally_eq_wsum, wsum_eq_lsum (fun r => decide (topOf hop r = some c))]
  simp only [decide_eq_true_eq]

theorem LinEq.tally {a b : List PBallot} (h : LinEq a b) (hop : List Cand) (c : Cand) :
    tally a hop c = tally b hop c := by
  rw [tally_eq_lsum, tally_eq_lsum, h]

theorem LinEq.tallies {a b : List PBallot} (h : LinEq a b) (hop : List Cand) : VK.tallies a hop = VK.tallies b hop := by
  unfold VK.tallies
  simp only [h.tally]

theorem lsum_scaleLed (f : List Cand → Rat) (hop : List Cand) (w : Cand) (x : Rat) (bs : List PBallot) :
    lsum f (scaleLed hop w x bs) = lsum (fun r => f r * (if topOf hop r = some w then x else 1)) bs := by
  unfold lsum scaleLed
  rw [List.map_map]
  congr 1
  apply List.map_congr_left
  intro b _
  simp only [Function.comp]
  split <;> ring

theorem LinEq.scaleLed {a b : List PBallot} (h : LinEq a b) (hop : List Cand) (w : Cand) (x : Rat) :
    LinEq (scaleLed hop w x a) (scaleLed hop w x b) := by
  intro f
  rw [lsum_scaleLed, lsum_scaleLed]; exact h _

theorem lsum_zero (f : List Cand → Rat) (l : List PBallot) : lsum f (l.map (fun x => (x.1, (0 : Rat)))) = 0 := by
  unfold lsum
  simp only [List.map_map, Function.comp_def, mul_zero, rsum_map_zero]

theorem LinEq.zero (a b : List PBallot) :
    LinEq (a.map (fun x => (x.1, (0 : Rat)))) (b.map (fun x => (x.1, (0 : Rat)))) :=
  fun f => by rw [lsum_zero, lsum_zero]

/-! ### what the choice of winners consults: the profile, only through the tiebreak it is configured with -/

theorem electLoop_congr (pri : List Cand) (prof prof' : Option Profile) (tb : Option TB)
    (h : ∀ s t, tb = some t → tiebreakSet pri s prof t = tiebreakSet pri s prof' t) (k : Nat) (acc rest : Ranking) :
    electLoop pri prof tb k acc rest = electLoop pri prof' tb k acc rest := by
  induction rest generalizing k acc with
  | nil => rfl
  | cons g rest ih =>
    unfold electLoop
    split
    · rfl
    · split
      · exact ih _ _
      · cases tb with
        | none => rfl
        | some t => simp only [h g t rfl]

theorem electFromRanking_congr (pri : List Cand) (prof prof' : Option Profile) (tb : Option TB)
    (h : ∀ s t, tb = some t → tiebreakSet pri s prof t = tiebreakSet pri s prof' t) (ranking : Ranking) (m : Nat) :
    electFromRanking pri ranking m prof tb = electFromRanking pri ranking m prof' tb := by
  unfold electFromRanking
  rw [electLoop_congr pri prof prof' tb h]

theorem electChoice_congr (cfg : STVCfg) (q : Int) (ω : STVOracle) (rnd : Nat) (S S2 : CState) (prev : RoundState)
    (h : cfg.simultaneous = false → ∀ s t, cfg.tiebreak = some t →
      tiebreakSet (ω.pri rnd) s (some (currentProfile S)) t = tiebreakSet (ω.pri rnd) s (some (currentProfile S2)) t) :
    electChoice cfg q ω rnd S prev = electChoice cfg q ω rnd S2 prev := by
  unfold electChoice
  split
  · rfl
  · rw [electFromRanking_congr _ _ _ _ (h (Bool.eq_false_iff.2 ‹_›))]

/-- configurations in which the choice of winners does not consult the current profile -/
def ProfileFreeChoice (cfg : STVCfg) : Prop :=
  cfg.simultaneous = true ∨ cfg.tiebreak = none ∨ cfg.tiebreak = some .random

theorem tiebreakSet_random (pri s : List Cand) (prof prof' : Option Profile) :
    tiebreakSet pri s prof .random = tiebreakSet pri s prof' .random := rfl

theorem electChoice_state_irrelevant (cfg : STVCfg) (q : Int) (ω : STVOracle) (rnd : Nat) (S S2 : CState)
    (prev : RoundState) (hcfg : ProfileFreeChoice cfg) :
    electChoice cfg q ω rnd S prev = electChoice cfg q ω rnd S2 prev := by
  refine electChoice_congr cfg q ω rnd S S2 prev fun hsim s t ht => ?_
  rcases hcfg with h | h | h
  · rw [h] at hsim; cases hsim
  · rw [h] at ht; cases ht
  · rw [h] at ht; cases ht; exact tiebreakSet_random _ _ _ _

theorem tiebreakSet_firstPlace (pri s : List Cand) (p : Profile) :
    tiebreakSet pri s (some p) .firstPlace =
      (firstPlaceVotes p >>= fun sc => breakGroups pri (scoreToRanking (sc.filter (fun cs => s.contains cs.1)))) := by
  unfold tiebreakSet
  simp

theorem loserChoice_init (init init' : Profile) (ω : STVOracle) (rnd : Nat) (lowest : List Cand)
    (h : firstPlaceVotes init = firstPlaceVotes init') :
    loserChoice init ω rnd lowest = loserChoice init' ω rnd lowest := by
  unfold loserChoice
  rw [tiebreakSet_firstPlace, tiebreakSet_firstPlace, h]

/-- `G hop a b`: while `hop` are the hopeful candidates, nothing the count computes tells the ballot lists
`a` and `b` apart, and a surplus transfer keeps it so -/
structure Blind (cfg : STVCfg) (G : List Cand → List PBallot → List PBallot → Prop) : Prop where
  tallies : ∀ {hop a b}, G hop a b → tallies a hop = tallies b hop
  shrink : ∀ {hop a b} (p : Cand → Bool), G hop a b → G (hop.filter p) a b
  zero : ∀ {hop a b}, G hop a b → G [] (a.map fun x => (x.1, 0)) (b.map fun x => (x.1, 0))
  transfer : ∀ {hop a b} (q : Int) (sample : List (List Cand × Nat)) (w : Cand), G hop a b →
    Outcome.Rel (G hop) (applyTransfer cfg hop q sample a w) (applyTransfer cfg hop q sample b w)

def SameCountBy (G : List Cand → List PBallot → List PBallot → Prop) (S S2 : CState) : Prop :=
  S.hopeful = S2.hopeful ∧ S.nElected = S2.nElected ∧ G S.hopeful S.bs S2.bs

section
variable {cfg : STVCfg} {G : List Cand → List PBallot → List PBallot → Prop}

theorem Blind.transfers (hG : Blind cfg G) (hop : List Cand) (q : Int) (sample : Cand → List (List Cand × Nat))
    (ws : List Cand) {a b : List PBallot} (h : G hop a b) :
    Outcome.Rel (G hop) (applyTransfers cfg hop q sample ws a) (applyTransfers cfg hop q sample ws b) := by
  induction ws generalizing a b with
  | nil => exact h
  | cons w rest ih =>
    rw [applyTransfers_cons, applyTransfers_cons]
    exact (hG.transfer q (sample w) w h).bind fun _ _ h' => ih h'

theorem Blind.step (hG : Blind cfg G) {init init' : Profile} (q : Int) (ω : STVOracle) (rnd : Nat)
    {S S2 : CState} (prev : RoundState)
    (hec : electChoice cfg q ω rnd S prev = electChoice cfg q ω rnd S2 prev)
    (hinit : firstPlaceVotes init = firstPlaceVotes init') (hS : SameCountBy G S S2) :
    Outcome.Rel (fun a b => a.2 = b.2 ∧ SameCountBy G a.1 b.1)
      (stvStep cfg init q ω rnd S prev) (stvStep cfg init' q ω rnd S2 prev) := by
  obtain ⟨hh, hn, hg⟩ := hS
  unfold stvStep
  rw [← hh, ← hn, hec, funext fun l => loserChoice_init init init' ω rnd l hinit]
  refine .ite (fun _ => ?_) fun _ => .ite (fun _ => ⟨rfl, rfl, rfl, hG.zero hg⟩) fun _ => ?_
  · refine .bind_same _ fun gt => ?_
    refine (hG.transfers _ q (ω.sample rnd) gt.1.flatten hg).bind fun bs' bs2' h' => ?_
    have h'' := hG.shrink (fun c => !gt.1.flatten.contains c) h'
    exact ⟨by rw [hG.tallies h''], rfl, rfl, h''⟩
  · cases prev.remaining.getLast? with
    | none => exact rfl
    | some lowest =>
      refine .bind_same _ fun ct => ?_
      have h' := hG.shrink (fun x => x != ct.1) hg
      exact ⟨by rw [hG.tallies h'], rfl, rfl, h'⟩

/-- `R` may look at the last round and at the rounds recorded so far. -/
theorem stvLoop_rel {init init' : Profile} {q : Int} {ω : STVOracle}
    (R : RoundState → List RoundState → CState → CState → Prop)
    (hn : ∀ {prev recs S S2}, R prev recs S S2 → S.nElected = S2.nElected)
    (hstep : ∀ {prev recs S S2}, R prev recs S S2 →
      Outcome.Rel (fun a b => a.2 = b.2 ∧ R a.2 (a.2 :: recs) a.1 b.1)
        (stvStep cfg init q ω (prev.round + 1) S prev) (stvStep cfg init' q ω (prev.round + 1) S2 prev))
    (fuel : Nat) {S S2 : CState} {prev : RoundState} {acc acc2 : List (RoundState × CState)}
    (hacc : acc.map (·.1) = acc2.map (·.1)) (hS : R prev (acc.map (·.1)) S S2) :
    Outcome.Rel (fun a b => a.map (·.1) = b.map (·.1))
      (stvLoop cfg init q ω fuel S prev acc) (stvLoop cfg init' q ω fuel S2 prev acc2) := by
  induction fuel generalizing S S2 prev acc acc2 with
  | zero =>
    unfold stvLoop
    rw [← hn hS]
    exact .ite (fun _ => by simp only [Outcome.Rel, List.map_reverse, hacc]) fun _ => trivial
  | succ fuel ih =>
    unfold stvLoop
    rw [← hn hS]
    refine .ite (fun _ => by simp only [Outcome.Rel, List.map_reverse, hacc]) fun _ => ?_
    refine (hstep hS).bind fun ⟨S', r⟩ ⟨S2', r2⟩ ⟨hr, hS'⟩ => ?_
    cases hr
    exact ih (by simp only [List.map_cons, hacc]) hS'

theorem Blind.loop (hG : Blind cfg G) (hcfg : ProfileFreeChoice cfg) {init init' : Profile} (q : Int) (ω : STVOracle)
    (hinit : firstPlaceVotes init = firstPlaceVotes init') (fuel : Nat) {S S2 : CState} {prev : RoundState}
    {acc acc2 : List (RoundState × CState)} (hacc : acc.map (·.1) = acc2.map (·.1)) (hS : SameCountBy G S S2) :
    Outcome.Rel (fun a b => a.map (·.1) = b.map (·.1))
      (stvLoop cfg init q ω fuel S prev acc) (stvLoop cfg init' q ω fuel S2 prev acc2) :=
  stvLoop_rel (fun _ _ => SameCountBy G) (fun h => h.2.1)
    (fun {prev _ S S2} h => hG.step q ω _ prev (electChoice_state_irrelevant cfg q ω _ S S2 prev hcfg) hinit h)
    fuel hacc hS

end

theorem blind_lineq {cfg : STVCfg} (hnr : cfg.transfer ≠ .random) : Blind cfg fun _ => LinEq where
  tallies h := h.tallies _
  shrink _ h := h
  zero _ := LinEq.zero _ _
  transfer := by
    intro hop a b q sample w h
    have ht := h.tally hop w
    unfold applyTransfer
    rw [← ht]
    cases hk : cfg.transfer with
    | random => exact absurd hk hnr
    | full => exact h
    | fractional => exact .ite (fun _ => rfl) fun _ => h.scaleLed hop w _

def SameCount (S S2 : CState) : Prop := S.hopeful = S2.hopeful ∧ S.nElected = S2.nElected ∧ LinEq S.bs S2.bs

theorem sameCount_iff {S S2 : CState} : SameCount S S2 ↔ SameCountBy (fun _ => LinEq) S S2 := Iff.rfl

def RelStep : Outcome (CState × RoundState) → Outcome (CState × RoundState) → Prop
  | .ok a, .ok b => a.2 = b.2 ∧ SameCount a.1 b.1
  | .raised e, .raised e' => e = e'
  | .oracleMismatch, .oracleMismatch => True
  | .outOfFuel, .outOfFuel => True
  | _, _ => False

theorem relStep_iff (x y : Outcome (CState × RoundState)) :
    RelStep x y ↔ Outcome.Rel (fun a b => a.2 = b.2 ∧ SameCount a.1 b.1) x y := by
  cases x <;> cases y <;> exact Iff.rfl

theorem stvStep_lineq (cfg : STVCfg) (init init' : Profile) (q : Int) (ω : STVOracle) (rnd : Nat)
    (S S2 : CState) (prev : RoundState) (hnr : cfg.transfer ≠ .random) (hcfg : ProfileFreeChoice cfg)
    (hinit : firstPlaceVotes init = firstPlaceVotes init') (hS : SameCount S S2) :
    RelStep (stvStep cfg init q ω rnd S prev) (stvStep cfg init' q ω rnd S2 prev) :=
  (relStep_iff _ _).2 <|
    (blind_lineq hnr).step q ω rnd prev (electChoice_state_irrelevant cfg q ω rnd S S2 prev hcfg) hinit
      (sameCount_iff.1 hS)

theorem total_eq_lsum (p : Profile) : p.total = lsum (fun _ => 1) (stvInitState p).bs := by
  unfold Profile.total totalWeight lsum stvInitState
  simp [List.map_map, Function.comp_def]

end VK
