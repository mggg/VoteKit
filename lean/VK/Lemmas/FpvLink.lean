/-
  The initial first-place tallies computed by the scoring utility
  (`firstPlaceVotes`, what the code records for round 0) are the tallies of the initial STV count
  state, for profiles of untied, non-empty rankings over declared candidates.
-/
import VK.Model.STV
import VK.Lemmas.Sum
import VK.Lemmas.STVWeight
import VK.Lemmas.Elect
import VK.Props.C04

namespace VK

theorem validVector_cons_zeros {x : Rat} (hx : 0 ≤ x) (n : Nat) :
    validVector (x :: List.replicate n 0) = true := by
  induction n generalizing x with
  | zero => simp [validVector, hx]
  | succ n ih => simp [List.replicate_succ, validVector, hx, ih le_rfl]

theorem validVector_fpv (n : Nat) : validVector (fpvVector n) = true :=
  validVector_cons_zeros zero_le_one n

theorem padVector_fpv (n : Nat) : padVector (fpvVector n) n = fpvVector n := by
  simp [padVector, fpvVector]

theorem fpvVector_nonneg (n : Nat) : ∀ x ∈ fpvVector n, 0 ≤ x := by
  intro x hx
  rcases List.mem_cons.1 hx with h | h
  · rw [h]; exact zero_le_one
  · rw [(List.mem_replicate.1 h).2]

theorem rsum_take_fpv (n k : Nat) (hk : 1 ≤ k) : rsum ((fpvVector n).take k) = 1 := by
  obtain ⟨j, rfl⟩ : ∃ j, k = j + 1 := ⟨k - 1, by omega⟩
  rw [fpvVector, List.take_succ_cons, rsum_cons,
    rsum_zeros _ (fun x hx => (List.mem_replicate.1 (List.mem_of_mem_take hx)).2), add_zero]

theorem alloc_zero (n : Nat) (r : Ranking) (i : Nat) (hi : 1 ≤ i) :
    ∀ sa ∈ positionAlloc (fpvVector n) i r, sa.2 = 0 := by
  induction r generalizing i with
  | nil => exact fun _ h => nomatch h
  | cons s rest ih =>
    intro sa hsa
    rcases List.mem_cons.1 hsa with rfl | h
    · obtain ⟨j, rfl⟩ := Nat.exists_eq_add_one.2 hi
      have : rsum (((fpvVector n).drop (j + 1)).take s.length) = 0 := rsum_zeros _ fun x hx =>
        (List.mem_replicate.1 (List.mem_of_mem_drop (List.mem_of_mem_take hx))).2
      exact (congrArg (· / _) this).trans (zero_div _)
    · exact ih (i + s.length) (Nat.le_add_right_of_le hi) sa h

/-- under the first-place vector a ballot gives its one point to the members of its first position, in
equal shares -/
theorem ballotPoints_fpv_cons (n : Nat) (hd : List Cand) (rest : Ranking) (c : Cand) (hne : hd ≠ []) :
    ballotPoints (fpvVector n) (hd :: rest) c = if hd.contains c then 1 / (hd.length : Rat) else 0 := by
  have hpos : 1 ≤ hd.length := List.length_pos_of_ne_nil hne
  have hhead : rsum (((fpvVector n).drop 0).take hd.length) = 1 := rsum_take_fpv n hd.length hpos
  have hrest : rsum (((positionAlloc (fpvVector n) (0 + hd.length) rest).filter
      (fun sa => sa.1.contains c)).map (·.2)) = 0 := rsum_zeros _ fun x hx => by
    obtain ⟨sa, hsa, rfl⟩ := List.mem_map.1 hx
    exact alloc_zero n rest _ (Nat.le_add_left_of_le hpos) sa (List.mem_filter.1 hsa).1
  rw [ballotPoints, positionAlloc, List.filter_cons]
  split
  · rw [List.map_cons, rsum_cons, hrest, hhead, add_zero]
  · exact hrest

theorem ballotPoints_fpv (n : Nat) (c1 c : Cand) (rest : Ranking) :
    ballotPoints (fpvVector n) ([c1] :: rest) c = if c1 = c then 1 else 0 := by
  rw [ballotPoints_fpv_cons n [c1] rest c (List.cons_ne_nil _ _)]
  by_cases h : c1 = c
  · simp [h]
  · simp [h, Ne.symm h]

/-- The round-0 scores VoteKit records (`firstPlaceVotes`, through the scoring utility) are the tallies of the
initial count state. The theorems about a run take this identity as their hypothesis `hfpv`. -/
theorem fpv_link (p : Profile)
    (hne : ∀ b ∈ p.ballots, b.ranking ≠ [])
    (hsingle : ∀ b ∈ p.ballots, ∀ s ∈ b.ranking, s.length = 1)
    (hcast : ∀ b ∈ p.ballots, ∀ c ∈ b.ranking.flatten, c ∈ p.cands) :
    firstPlaceVotes p = .ok (tallies (stvInitState p).bs p.cands) := by
  have hany : p.ballots.any (fun b => b.ranking.isEmpty) = false :=
    List.any_eq_false.2 fun b hb => by simpa using hne b hb
  have hsc := scoreFromRankings_eq_ok.2 ⟨validVector_fpv p.cands.length, hany, rfl⟩
  refine hsc.trans (congrArg _ ?_)
  rw [C04_score_spec p _ _ hsc, padVector_fpv, tallies]
  refine List.map_congr_left fun c _ => congrArg _ ?_
  rw [tally, rsum_filter_map_eq_ite, stvInitState, List.map_map]
  refine congrArg _ (List.map_congr_left fun b hb => ?_)
  -- one ballot: its first position is a single declared candidate, who gets the point and leads it
  obtain ⟨s, tail, hr⟩ := List.exists_cons_of_ne_nil (hne b hb)
  obtain ⟨c1, rfl⟩ := List.length_eq_one_iff.1 (hsingle b hb s (hr ▸ List.mem_cons_self))
  have hc1 : c1 ∈ p.cands := hcast b hb c1 (by rw [hr]; exact List.mem_append_left _ (List.mem_singleton_self c1))
  have htop : topOf p.cands b.ranking.flatten = some c1 := by
    rw [hr, List.flatten_cons, List.singleton_append, topOf_cons, if_pos (List.contains_iff_mem.2 hc1)]
  have hrank : ∃ tail', (addMissingBallot p.cands b).ranking = [c1] :: tail' := by
    rw [addMissingBallot, hr]; split <;> exact ⟨_, rfl⟩
  obtain ⟨tail', hrank⟩ := hrank
  simp only [hrank, ballotPoints_fpv, htop, Function.comp_apply]
  by_cases hcc : c1 = c <;> simp [hcc]

end VK
