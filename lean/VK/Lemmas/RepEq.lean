/-
  Two ballot lists that represent the same profile: every weight-linear functional of the contents agrees (`lin`),
  the same contents occur (`same`), all weights are positive. Reordering, splitting a ballot into identical ballots
  whose positive weights add up, and merging (condensing) produce such pairs; scoring and `remove_cand` respect the
  relation.
-/
import VK.Lemmas.Rescore
import VK.Model.Rules
namespace VK

def bsum (g : Content → Rat) (bs : List Ballot) : Rat := rsum (bs.map (fun b => g b.content * b.weight))
def HasContent (bs : List Ballot) (k : Content) : Prop := ∃ b ∈ bs, b.content = k
def PosW (bs : List Ballot) : Prop := ∀ b ∈ bs, 0 < b.weight

structure RepEq (bs bs' : List Ballot) : Prop where
  lin : ∀ g, bsum g bs = bsum g bs'
  same : ∀ k, HasContent bs k ↔ HasContent bs' k
  pos : PosW bs
  pos' : PosW bs'

theorem bsum_cons (g : Content → Rat) (b : Ballot) (bs : List Ballot) :
    bsum g (b :: bs) = g b.content * b.weight + bsum g bs := rfl

theorem hasContent_cons {b : Ballot} {bs : List Ballot} {k : Content} :
    HasContent (b :: bs) k ↔ b.content = k ∨ HasContent bs k := by
  simp only [HasContent, List.mem_cons, exists_eq_or_imp]

theorem posW_cons {b : Ballot} {bs : List Ballot} : PosW (b :: bs) ↔ 0 < b.weight ∧ PosW bs := List.forall_mem_cons

theorem RepEq.symm {a b : List Ballot} (h : RepEq a b) : RepEq b a :=
  ⟨fun g => (h.lin g).symm, fun k => (h.same k).symm, h.pos', h.pos⟩

theorem RepEq.trans {a b c : List Ballot} (h1 : RepEq a b) (h2 : RepEq b c) : RepEq a c :=
  ⟨fun g => (h1.lin g).trans (h2.lin g), fun k => (h1.same k).trans (h2.same k), h1.pos, h2.pos'⟩

theorem RepEq.of_perm {a b : List Ballot} (h : a.Perm b) (hp : PosW a) : RepEq a b := by
  refine ⟨fun g => ?_, fun k => ?_, hp, fun x hx => hp x (h.symm.subset hx)⟩
  · exact rsum_map_perm h _
  · exact ⟨fun ⟨x, hx, e⟩ => ⟨x, h.subset hx, e⟩, fun ⟨x, hx, e⟩ => ⟨x, h.symm.subset hx, e⟩⟩

theorem RepEq.of_split (r : Ranking) (s : Scores) (w1 w2 : Rat) (h1 : 0 < w1) (h2 : 0 < w2) (rest : List Ballot)
    (hp : PosW rest) :
    RepEq (⟨r, w1, s⟩ :: ⟨r, w2, s⟩ :: rest) (⟨r, w1 + w2, s⟩ :: rest) := by
  refine ⟨fun g => ?_, fun k => ?_, posW_cons.2 ⟨h1, posW_cons.2 ⟨h2, hp⟩⟩, posW_cons.2 ⟨add_pos h1 h2, hp⟩⟩
  · simp only [bsum_cons, Ballot.content]; ring
  · simp only [hasContent_cons, Ballot.content, or_self_left]

theorem accAdd_pos (k : Content) (w : Rat) (hw : 0 < w) (acc : List (Content × Rat)) (h : ∀ x ∈ acc, 0 < x.2) :
    ∀ x ∈ accAdd k w acc, 0 < x.2 := by
  induction acc with
  | nil => exact fun x hx => List.mem_singleton.1 hx ▸ hw
  | cons a rest ih =>
    obtain ⟨ha, hr⟩ := List.forall_mem_cons.1 h
    unfold accAdd
    split
    · exact List.forall_mem_cons.2 ⟨add_pos ha hw, hr⟩
    · exact List.forall_mem_cons.2 ⟨ha, ih hr⟩

theorem foldl_accAdd_pos (bs : List Ballot) (hp : PosW bs) (acc : List (Content × Rat)) (h : ∀ x ∈ acc, 0 < x.2) :
    ∀ x ∈ bs.foldl (fun acc b => accAdd b.content b.weight acc) acc, 0 < x.2 := by
  induction bs generalizing acc with
  | nil => exact h
  | cons b rest ih => exact ih (posW_cons.1 hp).2 _ (accAdd_pos _ _ (posW_cons.1 hp).1 acc h)

theorem condense_pos (bs : List Ballot) (hp : PosW bs) : PosW (condense bs) := by
  intro b hb
  obtain ⟨kw, hkw, rfl⟩ := List.mem_map.mp hb
  exact foldl_accAdd_pos bs hp [] (fun x hx => by cases hx) kw hkw

theorem hasContent_condense (bs : List Ballot) (k : Content) : HasContent (condense bs) k ↔ HasContent bs k :=
  List.mem_map.symm.trans (mem_condense_content bs k)

theorem RepEq.of_condense (bs : List Ballot) (hp : PosW bs) : RepEq bs (condense bs) :=
  ⟨fun g => (sum_condense g bs).symm, fun k => (hasContent_condense bs k).symm, hp, condense_pos bs hp⟩

theorem RepEq.condense_both {a b : List Ballot} (h : RepEq a b) : RepEq (condense a) (condense b) :=
  ((RepEq.of_condense a h.pos).symm.trans h).trans (RepEq.of_condense b h.pos')

theorem any_content {a : List Ballot} (P : Content → Bool) :
    a.any (fun x => P x.content) = true ↔ ∃ k, HasContent a k ∧ P k = true := by
  rw [List.any_eq_true]
  exact ⟨fun ⟨x, hx, hp⟩ => ⟨_, ⟨x, hx, rfl⟩, hp⟩, fun ⟨_, ⟨x, hx, e⟩, hp⟩ => ⟨x, hx, e ▸ hp⟩⟩

theorem any_of_same {a b : List Ballot} (h : ∀ k, HasContent a k ↔ HasContent b k) (P : Content → Bool) :
    a.any (fun x => P x.content) = b.any (fun x => P x.content) :=
  Bool.eq_iff_iff.2 (by simp only [any_content, h])

theorem all_of_same {a b : List Ballot} (h : ∀ k, HasContent a k ↔ HasContent b k) (P : Content → Bool) :
    a.all (fun x => P x.content) = b.all (fun x => P x.content) := by
  simp only [List.all_eq_not_any_not, any_of_same h (fun k => !P k)]

theorem any_and_pos {l : List Ballot} (hl : PosW l) (p : Ballot → Bool) :
    l.any (fun x => p x && decide (0 < x.weight)) = l.any p := by
  induction l with
  | nil => rfl
  | cons x l ih =>
    rw [List.any_cons, List.any_cons, ih (posW_cons.1 hl).2, decide_eq_true (posW_cons.1 hl).1, Bool.and_true]

theorem scoreFromRankings_rep (cands : List Cand) (a b : List Ballot) (h : RepEq a b) (v : List Rat) :
    scoreFromRankings { ballots := a, cands := cands } v = scoreFromRankings { ballots := b, cands := cands } v := by
  have hany : a.any (fun x => x.ranking.isEmpty) = b.any (fun x => x.ranking.isEmpty) :=
    any_of_same h.same (fun k => k.1.isEmpty)
  by_cases hv : validVector v = true
  · by_cases hr : a.any (fun x => x.ranking.isEmpty) = true
    · simp [scoreFromRankings, addMissing, hv, hr, hany ▸ hr]
    · have hr' := hany ▸ hr
      simp only [List.any_eq_true, List.isEmpty_iff, not_exists, not_and] at hr hr'
      exact scoreFromRankings_congr cands a b v hv hr hr' fun g => h.lin fun k => g k.1
  · simp [scoreFromRankings, hv]

theorem scoreFromBallotScores_rep (cands : List Cand) (a b : List Ballot) (h : RepEq a b) :
    scoreFromBallotScores { ballots := a, cands := cands } = scoreFromBallotScores { ballots := b, cands := cands } := by
  have h1 : a.any (fun x => x.scores.isEmpty) = b.any (fun x => x.scores.isEmpty) :=
    any_of_same h.same (fun k => k.2.isEmpty)
  have h2 : a.any (fun x => x.scores.any (fun cs => !cands.contains cs.1)) =
      b.any (fun x => x.scores.any (fun cs => !cands.contains cs.1)) :=
    any_of_same h.same (fun k => k.2.any (fun cs => !cands.contains cs.1))
  have h3 := fun c => h.lin (fun k => rsum ((k.2.filter (fun cs => cs.1 = c)).map (·.2)))
  simp only [bsum, Ballot.content] at h3
  simp only [scoreFromBallotScores, h1, h2, h3]

theorem rankingValid_rep (cands : List Cand) (a b : List Ballot) (h : RepEq a b) :
    rankingValid { ballots := a, cands := cands } = rankingValid { ballots := b, cands := cands } :=
  all_of_same h.same (fun k => !k.1.isEmpty)

theorem isEmpty_rep (a b : List Ballot) (h : RepEq a b) : a.isEmpty = b.isEmpty := by
  have key : ∀ {a b : List Ballot}, (∀ k, HasContent a k → HasContent b k) → b = [] → a = [] := by
    rintro (_ | ⟨x, _⟩) _ hab rfl
    · rfl
    · obtain ⟨_, hy, _⟩ := hab _ ⟨x, List.mem_cons_self, rfl⟩
      cases hy
  rw [Bool.eq_iff_iff, List.isEmpty_iff, List.isEmpty_iff]
  exact ⟨key fun k => (h.same k).2, key fun k => (h.same k).1⟩

/-- the bridge to the equivalence of count states (`LinEq`) the STV theorems are stated with -/
theorem linEq_of_repEq (cands : List Cand) (a b : List Ballot) (h : RepEq a b) :
    LinEq (stvInitState { ballots := a, cands := cands }).bs (stvInitState { ballots := b, cands := cands }).bs := by
  intro f
  have := h.lin (fun k => f k.1.flatten)
  unfold bsum at this
  unfold lsum stvInitState
  simp only [List.map_map, Function.comp_def]
  exact this

/-- what `scrubBallot e` makes of a content, and whether it exhausts it -/
def scrubC (e : List Cand) (k : Content) : Content := (scrubRanking e k.1, scrubScores e k.2)
def exhaustedC (e : List Cand) (k : Content) : Bool := (scrubRanking e k.1).isEmpty && (scrubScores e k.2).isEmpty

/-- what `remove_cand` condenses: `removeCandBallots e bs true false` unfolds to `condense (kept e bs)` -/
def kept (e : List Cand) (bs : List Ballot) : List Ballot :=
  (bs.map (scrubBallot e)).filter (fun b => decide (0 < b.weight))

theorem kept_cons_pos (e : List Cand) (b : Ballot) (rest : List Ballot) (hw : 0 < b.weight) :
    kept e (b :: rest) =
      if exhaustedC e b.content then kept e rest
      else ⟨scrubRanking e b.ranking, b.weight, scrubScores e b.scores⟩ :: kept e rest := by
  have hb : scrubBallot e b = if exhaustedC e b.content then ⟨[], 0, []⟩
      else ⟨scrubRanking e b.ranking, b.weight, scrubScores e b.scores⟩ := rfl
  unfold kept
  rw [List.map_cons, List.filter_cons, hb]
  cases exhaustedC e b.content
  · exact if_pos (decide_eq_true hw)
  · exact if_neg fun h => lt_irrefl (0 : Rat) (of_decide_eq_true h)

theorem bsum_kept (e : List Cand) (g : Content → Rat) (bs : List Ballot) (hp : PosW bs) :
    bsum g (kept e bs) = bsum (fun k => if exhaustedC e k then 0 else g (scrubC e k)) bs := by
  induction bs with
  | nil => rfl
  | cons b rest ih =>
    rw [kept_cons_pos e b rest (posW_cons.1 hp).1, bsum_cons, ← ih (posW_cons.1 hp).2]
    split
    · rw [zero_mul, zero_add]
    · rfl

theorem hasContent_kept (e : List Cand) (bs : List Ballot) (hp : PosW bs) (k' : Content) :
    HasContent (kept e bs) k' ↔ ∃ k, HasContent bs k ∧ exhaustedC e k = false ∧ scrubC e k = k' := by
  induction bs with
  | nil => simp [HasContent, kept]
  | cons b rest ih =>
    rw [kept_cons_pos e b rest (posW_cons.1 hp).1]
    simp only [hasContent_cons, or_and_right, exists_or, exists_eq_left', ← ih (posW_cons.1 hp).2]
    cases exhaustedC e b.content
    · simp only [hasContent_cons, true_and, Bool.false_eq_true, if_false]; rfl
    · simp only [if_true, Bool.true_eq_false, false_and, false_or]

theorem posW_kept (e : List Cand) (bs : List Ballot) : PosW (kept e bs) :=
  fun _ hb => of_decide_eq_true (List.mem_filter.mp hb).2

theorem RepEq.kept {a b : List Ballot} (h : RepEq a b) (e : List Cand) : RepEq (kept e a) (kept e b) := by
  refine ⟨fun g => ?_, fun k' => ?_, posW_kept e a, posW_kept e b⟩
  · rw [bsum_kept e g a h.pos, bsum_kept e g b h.pos']; exact h.lin _
  · simp only [hasContent_kept e _ h.pos, hasContent_kept e _ h.pos', h.same]

theorem RepEq.removeCand {a b : List Ballot} (h : RepEq a b) (e : List Cand) :
    RepEq (removeCandBallots e a true false) (removeCandBallots e b true false) :=
  (h.kept e).condense_both

end VK
