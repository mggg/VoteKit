/-
  A scoring that returns (`scoreFromRankings_eq_ok`); tie breaking returns a strict order of
  exactly the tied set; `elect_cands_from_set_ranking` fills exactly `m` seats from the top of the ranking;
  a finished single-round run (`topMRun`) is one call of it between two scorings.
-/
import VK.Model.Rules
import VK.Lemmas.Outcome
import VK.Lemmas.Ranking
import VK.Lemmas.Sum
import Mathlib.Data.List.Flatten

namespace VK

theorem singletons_flatten_length (l : Ranking) (h : ∀ x ∈ l, x.length = 1) :
    l.flatten.length = l.length := by
  induction l with
  | nil => rfl
  | cons x xs ih =>
    rw [List.flatten_cons, List.length_append, ih fun y hy => h y (List.mem_cons_of_mem _ hy),
      h x List.mem_cons_self, List.length_cons, Nat.add_comm]

theorem orderBy_eq_ok {pri s o : List Cand} : orderBy pri s = .ok o ↔
    o = pri.filter (fun c => s.contains c) ∧ o.length = s.length ∧
      ∀ c ∈ s, (pri.filter (· = c)).length = 1 := by
  unfold orderBy
  simp only [Bool.and_eq_true, decide_eq_true_eq, List.all_eq_true]
  split
  · next h => exact ⟨fun e => (Outcome.ok.inj e) ▸ ⟨rfl, h⟩, fun e => e.1 ▸ rfl⟩
  · next h => exact ⟨fun e => (nomatch e), fun e => absurd (e.1 ▸ e.2) h⟩

theorem orderBy_mem (pri s o : List Cand) (h : orderBy pri s = .ok o) : ∀ x ∈ o, x ∈ s := by
  rw [(orderBy_eq_ok.1 h).1]
  exact fun x hx => by simpa using (List.mem_filter.mp hx).2

theorem orderBy_perm (pri s o : List Cand) (hs : s.Nodup) (h : orderBy pri s = .ok o) : o.Perm s := by
  obtain ⟨rfl, hlen, hone⟩ := orderBy_eq_ok.1 h
  -- every member of the duplicate-free `s` occurs in `pri`, hence in the answer, which is no longer than `s`
  have hsub : s ⊆ pri.filter (fun c => s.contains c) := fun c hc => by
    obtain ⟨x, hx⟩ := List.exists_mem_of_length_pos (Nat.lt_of_lt_of_eq Nat.zero_lt_one (hone c hc).symm)
    obtain ⟨hxp, hxc⟩ := List.mem_filter.1 hx
    exact List.mem_filter.2 ⟨of_decide_eq_true hxc ▸ hxp, List.contains_iff_mem.2 hc⟩
  exact ((List.subperm_of_subset hs hsub).perm_of_length_le hlen.le).symm

theorem orderBy_singletons (pri s o : List Cand) (hs : s.Nodup) (h : orderBy pri s = .ok o) :
    (o.map (fun c => [c])).flatten.Perm s ∧ ∀ x ∈ o.map (fun c => [c]), x.length = 1 :=
  ⟨by rw [← List.flatMap_def, List.flatMap_singleton']; exact orderBy_perm pri s o hs h, fun x hx => by
    obtain ⟨c, _, rfl⟩ := List.mem_map.1 hx; rfl⟩

theorem breakGroup_spec (pri g : List Cand) (r : Ranking) (hg : g.Nodup)
    (h : breakGroup pri g = .ok r) :
    r.flatten.Perm g ∧ (g ≠ [] → ∀ s ∈ r, s.length = 1) := by
  unfold breakGroup at h
  split at h
  · next hl =>
    cases h
    refine ⟨by rw [List.flatten_singleton], fun hne s hs => ?_⟩
    cases List.mem_singleton.1 hs
    exact Nat.le_antisymm hl (List.length_pos_of_ne_nil hne)
  · obtain ⟨o, ho, h⟩ := Outcome.bind_eq_ok.1 h
    cases h
    exact ⟨(orderBy_singletons pri g o hg ho).1, fun _ => (orderBy_singletons pri g o hg ho).2⟩

theorem breakGroups_spec (pri : List Cand) (gs r : Ranking) (hg : ∀ g ∈ gs, g.Nodup)
    (h : breakGroups pri gs = .ok r) :
    r.flatten.Perm gs.flatten ∧ ((∀ g ∈ gs, g ≠ []) → ∀ s ∈ r, s.length = 1) := by
  induction gs generalizing r with
  | nil => cases h; exact ⟨.nil, fun _ _ hs => absurd hs List.not_mem_nil⟩
  | cons g gs ih =>
    rw [breakGroups] at h
    obtain ⟨a, ha, h⟩ := Outcome.bind_eq_ok.1 h
    obtain ⟨b, hb, h⟩ := Outcome.bind_eq_ok.1 h
    cases h
    obtain ⟨pa, sa⟩ := breakGroup_spec pri g a (hg g List.mem_cons_self) ha
    obtain ⟨pb, sb⟩ := ih b (fun x hx => hg x (List.mem_cons_of_mem _ hx)) hb
    refine ⟨by rw [List.flatten_append, List.flatten_cons]; exact pa.append pb, fun hne s hs => ?_⟩
    rcases List.mem_append.1 hs with hs | hs
    · exact sa (hne g List.mem_cons_self) s hs
    · exact sb (fun x hx => hne x (List.mem_cons_of_mem _ hx)) s hs

theorem breakGroups_sorted (pri : List Cand) (sc : List (Cand × Rat)) (hk : (sc.map (·.1)).Nodup)
    (vals : List Rat) (hv : vals.Pairwise (· > ·)) (t : Ranking)
    (h : breakGroups pri (vals.map (groupOf sc)) = .ok t) :
    t.flatten.Pairwise (fun a b => lookupScore sc b ≤ lookupScore sc a) ∧
    ∀ c ∈ t.flatten, ∃ v ∈ vals, lookupScore sc c = v := by
  induction vals generalizing t with
  | nil => cases h; exact ⟨List.Pairwise.nil, fun _ hc => nomatch hc⟩
  | cons v vs ih =>
    rw [List.pairwise_cons] at hv
    rw [List.map_cons, breakGroups] at h
    obtain ⟨a, h1, h⟩ := Outcome.bind_eq_ok.1 h
    obtain ⟨b, h2, h⟩ := Outcome.bind_eq_ok.1 h
    cases h
    obtain ⟨ihs, ihm⟩ := ih hv.2 b h2
    -- the first group resolves to candidates of score `v`, above every later score
    have ha : ∀ c ∈ a.flatten, lookupScore sc c = v := fun c hc =>
      lookupScore_groupOf hk ((breakGroup_spec pri _ a (groupOf_nodup sc hk v) h1).1.subset hc)
    rw [List.flatten_append]
    refine ⟨List.pairwise_append.2 ⟨?_, ihs, fun x hx y hy => ?_⟩, fun c hc => ?_⟩
    · exact List.pairwise_of_forall_mem_list (fun x hx y hy => by rw [ha x hx, ha y hy])
    · obtain ⟨u, hu, hyu⟩ := ihm y hy
      rw [ha x hx, hyu]
      exact le_of_lt (hv.1 u hu)
    · rcases List.mem_append.1 hc with hc | hc
      · exact ⟨v, List.mem_cons_self, ha c hc⟩
      · obtain ⟨u, hu, hcu⟩ := ihm c hc
        exact ⟨u, List.mem_cons_of_mem _ hu, hcu⟩

theorem addMissing_eq_ok {p p' : Profile} : addMissing p = .ok p' ↔
    (p.ballots.any (fun b => b.ranking.isEmpty)) = false ∧
      p' = { ballots := condense (p.ballots.map (addMissingBallot p.cands)), cands := p.cands } := by
  simp only [addMissing, Outcome.ite_raised_eq_ok, Bool.not_eq_true, Outcome.ok.injEq, eq_comm (a := p')]

theorem scoreFromRankings_eq_ok {p : Profile} {v : List Rat} {sc : List (Cand × Rat)} :
    scoreFromRankings p v = .ok sc ↔
      validVector v = true ∧ (p.ballots.any (fun b => b.ranking.isEmpty)) = false ∧
      sc = p.cands.map (fun c => (c, rsum ((condense (p.ballots.map (addMissingBallot p.cands))).map
        (fun b => ballotPoints (padVector v p.cands.length) b.ranking c * b.weight)))) := by
  unfold scoreFromRankings
  simp only [Bool.not_eq_true', Bool.not_eq_false, Outcome.ite_raised_eq_ok, Outcome.bind_eq_ok,
    addMissing_eq_ok, and_assoc, exists_and_left, exists_eq_left, Outcome.pure_eq, Outcome.ok.injEq,
    eq_comm (a := sc)]

theorem scoreFromRankings_keys (p : Profile) (v : List Rat) (sc : List (Cand × Rat))
    (h : scoreFromRankings p v = .ok sc) : sc.map (·.1) = p.cands := by
  rw [(scoreFromRankings_eq_ok.1 h).2.2, List.map_map]
  exact List.map_id' _

theorem tiebreakSet_ok_cases {pri s : List Cand} {prof : Option Profile} {tb : TB} {t : Ranking}
    (h : tiebreakSet pri s prof tb = .ok t) :
    (∃ o, orderBy pri s = .ok o ∧ t = o.map (fun c => [c])) ∨
    ∃ p v sc, prof = some p ∧ scoreFromRankings p v = .ok sc ∧
      breakGroups pri (scoreToRanking (sc.filter (fun cs => s.contains cs.1))) = .ok t := by
  cases tb <;> cases prof <;> simp only [tiebreakSet, reduceCtorEq, if_true, if_false] at h
  case random.none | random.some =>
    obtain ⟨o, ho, h⟩ := Outcome.bind_eq_ok.1 h
    exact .inl ⟨o, ho, (Outcome.ok.inj h).symm⟩
  case borda.some p | firstPlace.some p =>
    obtain ⟨sc, hsc, h⟩ := Outcome.bind_eq_ok.1 h
    exact .inr ⟨p, _, sc, rfl, hsc, h⟩

/-- A tiebreak returns a strict order of exactly the tied set: singletons whose concatenation is a permutation
of the set. `hsub` matters for the scored tiebreaks only: they look the set up among the declared candidates. -/
theorem tiebreakSet_spec (pri s : List Cand) (prof : Option Profile) (tb : TB) (t : Ranking)
    (hs : s.Nodup)
    (hsub : ∀ p, prof = some p → p.cands.Nodup ∧ ∀ c ∈ s, c ∈ p.cands)
    (h : tiebreakSet pri s prof tb = .ok t) :
    t.flatten.Perm s ∧ ∀ x ∈ t, x.length = 1 := by
  rcases tiebreakSet_ok_cases h with ⟨o, ho, rfl⟩ | ⟨p, v, sc, hp, hsc, hb⟩
  · exact orderBy_singletons pri s o hs ho
  · obtain ⟨hcn, hcs⟩ := hsub p hp
    -- the scores kept are those of the members of `s`, each once
    have hk : (sc.filter (fun cs => s.contains cs.1)).map (·.1) = p.cands.filter (fun c => s.contains c) := by
      rw [← scoreFromRankings_keys p v sc hsc, List.filter_map]; rfl
    have hnd : ((sc.filter (fun cs => s.contains cs.1)).map (·.1)).Nodup := hk ▸ hcn.filter _
    obtain ⟨hperm, hone⟩ := breakGroups_spec pri _ t (scoreToRanking_groups_nodup _ hnd) hb
    refine ⟨(hperm.trans (scoreToRanking_perm _)).trans ?_, hone (scoreToRanking_groups_nonempty _)⟩
    exact hk ▸ filter_contains_perm p.cands s hcn hs hcs

/-- what a returning `elect_cands_from_set_ranking` loop did: it took whole groups `pre` off the front
of the ranking, and either they fill the `k` seats exactly or the next group `g` is too large and
was broken -/
theorem electLoop_ok_cases {pri : List Cand} {prof : Option Profile} {tb : Option TB} {k : Nat}
    {acc rest : Ranking} {r : ElectResult} (h : electLoop pri prof tb k acc rest = .ok r) :
    ∃ pre post, rest = pre ++ post ∧
      ((pre.flatten.length = k ∧ r = ⟨acc.reverse ++ pre, post, none⟩) ∨
       ∃ g post' broken t, post = g :: post' ∧ tb = some t ∧
         pre.flatten.length < k ∧ k - pre.flatten.length < g.length ∧
         tiebreakSet pri g prof t = .ok broken ∧
         r = ⟨acc.reverse ++ pre ++ broken.take (k - pre.flatten.length),
              broken.drop (k - pre.flatten.length) ++ post', some (g, broken)⟩) := by
  induction rest generalizing k acc with
  | nil =>
    unfold electLoop at h
    split at h
    · next hk => cases h; exact ⟨[], [], rfl, .inl ⟨hk.symm, by rw [List.append_nil]⟩⟩
    · cases h
  | cons g rest ih =>
    unfold electLoop at h
    split at h
    · next hk => cases h; exact ⟨[], g :: rest, rfl, .inl ⟨hk.symm, by rw [List.append_nil]⟩⟩
    · next hk =>
      split at h
      · next hle =>
        obtain ⟨pre, post, rfl, hc⟩ := ih h
        refine ⟨g :: pre, post, rfl, ?_⟩
        simp only [List.reverse_cons, List.append_assoc, List.singleton_append, Nat.sub_sub] at hc
        simp only [List.flatten_cons, List.length_append, List.append_assoc]
        rcases hc with ⟨hl, rfl⟩ | ⟨g', post', broken, t, rfl, rfl, hlt, hgt, hb, rfl⟩
        · exact .inl ⟨by rw [hl, Nat.add_sub_cancel' hle], rfl⟩
        · exact .inr ⟨g', post', broken, t, rfl, rfl, Nat.add_lt_of_lt_sub' hlt, hgt, hb, rfl⟩
      · next hgt =>
        split at h
        · cases h
        · next t =>
          obtain ⟨broken, hb, h⟩ := Outcome.bind_eq_ok.1 h
          cases h
          exact ⟨[], g :: rest, rfl, .inr ⟨g, rest, broken, t, rfl, rfl, Nat.pos_of_ne_zero hk,
            Nat.lt_of_not_le hgt, hb, by rw [List.append_nil]; rfl⟩⟩

theorem electFromRanking_eq_ok {pri : List Cand} {ranking : Ranking} {m : Nat} {prof : Option Profile}
    {tb : Option TB} {r : ElectResult} :
    electFromRanking pri ranking m prof tb = .ok r ↔
      1 ≤ m ∧ m ≤ ranking.flatten.length ∧ electLoop pri prof tb m [] ranking = .ok r := by
  unfold electFromRanking
  rw [Outcome.ite_raised_eq_ok, Outcome.ite_raised_eq_ok, Nat.not_lt, Nat.not_lt]

/-- `electLoop_ok_cases` read field by field, with what `tiebreakSet_spec` says of the broken group -/
theorem electLoop_spec (pri : List Cand) (prof : Option Profile) (tb : Option TB)
    (k : Nat) (acc rest : Ranking) (r : ElectResult)
    (hnd : ∀ g ∈ rest, g.Nodup)
    (hsub : ∀ p, prof = some p → p.cands.Nodup ∧ ∀ g ∈ rest, ∀ c ∈ g, c ∈ p.cands)
    (h : electLoop pri prof tb k acc rest = .ok r) :
    ∃ pre post, rest = pre ++ post ∧
      ((r.tiebreak = none ∧ pre.flatten.length = k ∧ r.elected = acc.reverse ++ pre ∧ r.remaining = post) ∨
       (∃ g post' broken t, post = g :: post' ∧ r.tiebreak = some (g, broken) ∧ tb = some t ∧
          pre.flatten.length < k ∧ k - pre.flatten.length < g.length ∧
          tiebreakSet pri g prof t = .ok broken ∧
          broken.flatten.Perm g ∧ (∀ x ∈ broken, x.length = 1) ∧
          r.elected = acc.reverse ++ pre ++ broken.take (k - pre.flatten.length) ∧
          r.remaining = broken.drop (k - pre.flatten.length) ++ post')) := by
  obtain ⟨pre, post, rfl, hc⟩ := electLoop_ok_cases h
  refine ⟨pre, post, rfl, ?_⟩
  rcases hc with ⟨hl, rfl⟩ | ⟨g, post', broken, t, rfl, rfl, hlt, hgt, hb, rfl⟩
  · exact .inl ⟨rfl, hl, rfl, rfl⟩
  · have hg : g ∈ pre ++ g :: post' := List.mem_append_right _ List.mem_cons_self
    obtain ⟨hp, h1⟩ := tiebreakSet_spec pri g prof t broken (hnd g hg)
      (fun p hp => ⟨(hsub p hp).1, (hsub p hp).2 g hg⟩) hb
    exact .inr ⟨g, post', broken, t, rfl, rfl, rfl, hlt, hgt, hb, hp, h1, rfl, rfl⟩

theorem electFromRanking_count (pri : List Cand) (ranking : Ranking) (m : Nat) (prof : Option Profile)
    (tb : Option TB) (r : ElectResult)
    (hnd : ∀ g ∈ ranking, g.Nodup)
    (hsub : ∀ p, prof = some p → p.cands.Nodup ∧ ∀ g ∈ ranking, ∀ c ∈ g, c ∈ p.cands)
    (h : electFromRanking pri ranking m prof tb = .ok r) :
    r.elected.flatten.length = m ∧
    (r.elected.flatten ++ r.remaining.flatten).Perm ranking.flatten := by
  obtain ⟨pre, post, rfl, hc⟩ :=
    electLoop_spec pri prof tb m [] ranking r hnd hsub (electFromRanking_eq_ok.1 h).2.2
  rcases hc with ⟨_, h2, h3, h4⟩ | ⟨g, post', broken, t, rfl, _, _, h4, h5, _, h7, h8, h9, h10⟩
  · rw [h3, h4, List.reverse_nil, List.nil_append, List.flatten_append]
    exact ⟨h2, .refl _⟩
  · have hbl : broken.length = g.length := by
      rw [← singletons_flatten_length broken h8]; exact h7.length_eq
    rw [h9, h10]
    simp only [List.reverse_nil, List.nil_append, List.flatten_append, List.flatten_cons,
      List.length_append, List.append_assoc]
    constructor
    · rw [singletons_flatten_length _ fun x hx => h8 x (List.mem_of_mem_take hx), List.length_take]
      omega
    · refine List.Perm.append_left _ ?_
      rw [← List.append_assoc, ← List.flatten_append, List.take_append_drop]
      exact h7.append_right _

/-- the side conditions of the `electFromRanking` lemmas, for a ranking of candidates of the profile -/
theorem ranking_side {p : Profile} {rk : Ranking} {l : List Cand} (hc : p.cands.Nodup)
    (hperm : rk.flatten.Perm l) (hl : l.Sublist p.cands) :
    (∀ g ∈ rk, g.Nodup) ∧ ∀ q, some p = some q → q.cands.Nodup ∧ ∀ g ∈ rk, ∀ c ∈ g, c ∈ q.cands :=
  ⟨(List.nodup_flatten.1 (hperm.nodup_iff.2 (hl.nodup hc))).1, fun q hq => by
    cases hq
    exact ⟨hc, fun g hg c hcg => hl.subset (hperm.subset (List.mem_flatten.2 ⟨g, hg, hcg⟩))⟩⟩

/-- `elect_cands_from_set_ranking` respects whatever the ranking is sorted by: if `R a b` holds for `a` in an
earlier group than `b` and for `a`, `b` in one group, it holds from every elected candidate to every remaining
one. (A broken tie only reorders one group.) -/
theorem electFromRanking_sorted (R : Cand → Cand → Prop) (pri : List Cand) (ranking : Ranking) (m : Nat)
    (prof : Option Profile) (tb : Option TB) (r : ElectResult)
    (hacross : ranking.Pairwise (fun g g' => ∀ a ∈ g, ∀ b ∈ g', R a b))
    (hwithin : ∀ g ∈ ranking, ∀ a ∈ g, ∀ b ∈ g, R a b)
    (hnd : ∀ g ∈ ranking, g.Nodup)
    (hsub : ∀ p, prof = some p → p.cands.Nodup ∧ ∀ g ∈ ranking, ∀ c ∈ g, c ∈ p.cands)
    (h : electFromRanking pri ranking m prof tb = .ok r) :
    ∀ e ∈ r.elected.flatten, ∀ l ∈ r.remaining.flatten, R e l := by
  obtain ⟨pre, post, rfl, hcase⟩ := electLoop_spec pri prof tb m [] _ r hnd hsub (electFromRanking_eq_ok.1 h).2.2
  obtain ⟨-, hpost, hcross⟩ := List.pairwise_append.1 hacross
  intro e he l hl
  rcases hcase with ⟨-, -, h3, h4⟩ | ⟨g, post', broken, t, rfl, -, -, -, -, -, h7, -, h9, h10⟩
  · rw [h3, List.reverse_nil, List.nil_append] at he
    rw [h4] at hl
    obtain ⟨ge, hge, hee⟩ := List.mem_flatten.1 he
    obtain ⟨gl, hgl, hll⟩ := List.mem_flatten.1 hl
    exact hcross ge hge gl hgl e hee l hll
  · -- the elected are in `pre` or the tied group `g`, the remaining in `g` or `post'`
    have he' : (∃ x ∈ pre, e ∈ x) ∨ e ∈ g := by
      rw [h9, List.reverse_nil, List.nil_append, List.flatten_append, List.mem_append] at he
      exact he.imp List.mem_flatten.1 fun h => h7.mem_iff.1 ((List.take_sublist _ _).flatten.subset h)
    have hl' : l ∈ g ∨ ∃ y ∈ post', l ∈ y := by
      rw [h10, List.flatten_append, List.mem_append] at hl
      exact hl.imp (fun h => h7.mem_iff.1 ((List.drop_sublist _ _).flatten.subset h)) List.mem_flatten.1
    rcases he' with ⟨x, hx, hex⟩ | heg <;> rcases hl' with hlg | ⟨y, hy, hly⟩
    · exact hcross x hx g (by simp) e hex l hlg
    · exact hcross x hx y (by simp [hy]) e hex l hly
    · exact hwithin g (by simp) e heg l hlg
    · exact (List.pairwise_cons.1 hpost).1 y hy e heg l hly

theorem electFromRanking_mentions (pri : List Cand) (rk : Ranking) (m : Nat) (prof : Option Profile)
    (tb : Option TB) (r : ElectResult) (hnd : ∀ g ∈ rk, g.Nodup)
    (hsub : ∀ p, prof = some p → p.cands.Nodup ∧ ∀ g ∈ rk, ∀ c ∈ g, c ∈ p.cands)
    (h : electFromRanking pri rk m prof tb = .ok r) :
    (∀ x ∈ r.elected.flatten ++ r.remaining.flatten, x ∈ rk.flatten) ∧
      ∀ t ∈ (match r.tiebreak with | some t => [t] | none => []), ∀ x ∈ t.1 ++ t.2.flatten, x ∈ rk.flatten := by
  refine ⟨fun x hx => (electFromRanking_count pri rk m prof tb r hnd hsub h).2.subset hx, fun t ht x hx => ?_⟩
  obtain ⟨pre, post, hsplit, ⟨hnone, _⟩ | ⟨g, post', broken, _, hpost, hsome, _, _, _, _, hbp, _⟩⟩ :=
    electLoop_spec pri prof tb m [] rk r hnd hsub (electFromRanking_eq_ok.1 h).2.2
  · rw [hnone] at ht; cases ht
  · rw [hsome, List.mem_singleton] at ht
    subst ht
    have hx : x ∈ g := (List.mem_append.mp hx).elim id fun h => hbp.subset h
    exact List.mem_flatten.mpr ⟨g, by rw [hsplit, hpost]; simp, hx⟩

/-- what `topMRun` and `condoBordaRun` do once the opening scores are known: elect from the ranking `rk`, score
what is left, record round 1 -/
def electRound (p : Profile) (m : Nat) (tb : Option TB) (pri : List Cand)
    (score : Profile → Outcome (List (Cand × Rat))) (st0 : RoundState) (rk : Ranking) : Outcome States := do
  let r ← electFromRanking pri rk m (some p) tb
  let sc1 ← score (removeCand r.elected.flatten p)
  pure [st0, { round := 1, remaining := r.remaining, elected := r.elected, eliminated := [],
               tiebreaks := (match r.tiebreak with | some t => [t] | none => []), scores := sc1 }]

theorem topMRun_eq (p : Profile) (m : Nat) (tb : Option TB) (pri : List Cand)
    (score : Profile → Outcome (List (Cand × Rat))) :
    topMRun p m tb pri score = score p >>= fun sc0 =>
      electRound p m tb pri score (initialState p.cands (some sc0)) (initialState p.cands (some sc0)).remaining := rfl

theorem condoBordaRun_eq (p : Profile) (m : Nat) (pri : List Cand) :
    condoBordaRun p m pri = if !rankingValid p then .raised .typeError else bordaScores p >>= fun sc0 =>
      electRound p m (some .borda) pri bordaScores (initialState p.cands (some sc0)) (dominatingTiers p) := rfl

theorem topMRun_ok (p : Profile) (m : Nat) (tb : Option TB) (pri : List Cand)
    (score : Profile → Outcome (List (Cand × Rat))) (st : States)
    (h : topMRun p m tb pri score = .ok st) :
    ∃ sc0 r sc1, score p = .ok sc0 ∧
      electFromRanking pri (scoreToRanking sc0) m (some p) tb = .ok r ∧
      score (removeCand r.elected.flatten p) = .ok sc1 ∧
      st = [initialState p.cands (some sc0),
            { round := 1, remaining := r.remaining, elected := r.elected, eliminated := [],
              tiebreaks := (match r.tiebreak with | some t => [t] | none => []), scores := sc1 }] := by
  obtain ⟨sc0, h0, h⟩ := Outcome.bind_eq_ok.1 h
  obtain ⟨r, h1, h⟩ := Outcome.bind_eq_ok.1 h
  obtain ⟨sc1, h2, h⟩ := Outcome.bind_eq_ok.1 h
  exact ⟨sc0, r, sc1, h0, h1, h2, (Outcome.ok.inj h).symm⟩

theorem pluralityRun_ok {p : Profile} {m : Nat} {tb : Option TB} {pri : List Cand} {st : States}
    (h : pluralityRun p m tb pri = .ok st) : topMRun p m tb pri firstPlaceVotes = .ok st :=
  (Outcome.ite_raised_eq_ok.1 h).2

end VK
