/-
  The scoring functions and `remove_cand` on a profile whose declared candidates are listed in another order: the
  score dictionary is the same dictionary re-listed.
-/
import VK.Lemmas.Reorder
import VK.Lemmas.Rescore
namespace VK

def withCands (p : Profile) (c2 : List Cand) : Profile := { ballots := p.ballots, cands := c2 }

theorem ballotPoints_last_perm (v : List Rat) (r : Ranking) (g g' : List Cand) (h : g.Perm g') (c : Cand) :
    ballotPoints v (r ++ [g]) c = ballotPoints v (r ++ [g']) c := by
  have hc : g.contains c = g'.contains c := contains_of_mem_iff (fun _ => h.mem_iff) c
  have key : ∀ i, ((positionAlloc v i (r ++ [g])).filter (fun sa => sa.1.contains c)).map (·.2) =
      ((positionAlloc v i (r ++ [g'])).filter (fun sa => sa.1.contains c)).map (·.2) := by
    induction r with
    | nil =>
      intro i
      simp only [List.nil_append, positionAlloc, List.filter_cons, hc, h.length_eq]
      split <;> rfl
    | cons s rest ih =>
      intro i
      simp only [List.cons_append, positionAlloc, List.filter_cons]
      split <;> simp only [List.map_cons, ih]
  exact congrArg rsum (key 0)

theorem addMissing_points_perm (cands c2 : List Cand) (h : c2.Perm cands) (b : Ballot) (v : List Rat) (c : Cand) :
    ballotPoints v (addMissingBallot c2 b).ranking c = ballotPoints v (addMissingBallot cands b).ranking c := by
  have hp : (missingCands c2 b.ranking).Perm (missingCands cands b.ranking) := h.filter _
  unfold addMissingBallot
  simp only [hp.isEmpty_eq]
  split
  · rfl
  · exact ballotPoints_last_perm v b.ranking _ _ hp c

theorem reSc_of_map (c2 cands : List Cand) (hperm : c2.Perm cands) (F : Cand → Rat) :
    reSc c2 (cands.map (fun c => (c, F c))) = c2.map (fun c => (c, F c)) := by
  unfold reSc
  rw [keys_map, reG_all c2 cands hperm]
  exact List.map_congr_left fun c hc => by rw [lookupScore_map cands F c (hperm.subset hc)]

theorem scoreFromRankings_re (p : Profile) (c2 : List Cand) (hperm : c2.Perm p.cands) (v : List Rat) :
    scoreFromRankings (withCands p c2) v = (scoreFromRankings p v).map (reSc c2) := by
  by_cases hv : validVector v = true
  · cases hany : p.ballots.any (fun b => b.ranking.isEmpty) with
    | false =>
      have hr : ∀ b ∈ p.ballots, b.ranking ≠ [] := fun b hb h =>
        List.any_eq_false.mp hany b hb (by rw [h]; rfl)
      rw [scoreFromRankings_eq _ v hv (show ∀ b ∈ (withCands p c2).ballots, b.ranking ≠ [] from hr),
        scoreFromRankings_eq _ v hv hr, Outcome.map_ok, reSc_of_map c2 p.cands hperm]
      simp only [withCands, hperm.length_eq, addMissing_points_perm p.cands c2 hperm]
    | true =>
      simp only [scoreFromRankings, addMissing, withCands, hany, hv, Bool.not_true, Bool.false_eq_true, if_false,
        if_true]
      rfl
  · rw [Bool.not_eq_true] at hv
    simp only [scoreFromRankings, hv, Bool.not_false, if_true]
    rfl

theorem firstPlaceVotes_re (p : Profile) (c2 : List Cand) (hperm : c2.Perm p.cands) :
    firstPlaceVotes (withCands p c2) = (firstPlaceVotes p).map (reSc c2) := by
  unfold firstPlaceVotes
  have : (withCands p c2).cands.length = p.cands.length := hperm.length_eq
  rw [this]; exact scoreFromRankings_re p c2 hperm _

theorem bordaScores_re (p : Profile) (c2 : List Cand) (hperm : c2.Perm p.cands) :
    bordaScores (withCands p c2) = (bordaScores p).map (reSc c2) := by
  unfold bordaScores
  have : (withCands p c2).cands.length = p.cands.length := hperm.length_eq
  rw [this]; exact scoreFromRankings_re p c2 hperm _

theorem scoreFromBallotScores_re (p : Profile) (c2 : List Cand) (hperm : c2.Perm p.cands) :
    scoreFromBallotScores (withCands p c2) = (scoreFromBallotScores p).map (reSc c2) := by
  have hcont : ∀ x, c2.contains x = p.cands.contains x := contains_of_mem_iff fun _ => hperm.mem_iff
  unfold scoreFromBallotScores
  rw [apply_ite (Outcome.map (reSc c2)), apply_ite (Outcome.map (reSc c2)), Outcome.map_ok,
    reSc_of_map c2 p.cands hperm]
  simp only [withCands, hcont]
  rfl

/-- `remove_cand` only asks whether a candidate is among the removed ones -/
theorem removeCand_re (p : Profile) (c2 removed removed' : List Cand) (h : ∀ x, x ∈ removed' ↔ x ∈ removed)
    (cond leaveZero : Bool) :
    removeCand removed' (withCands p c2) cond leaveZero =
      withCands (removeCand removed p cond leaveZero) (c2.filter (fun c => !removed.contains c)) := by
  have hcont : ∀ x, removed'.contains x = removed.contains x := contains_of_mem_iff h
  unfold removeCand removeCandBallots scrubBallots scrubBallot scrubRanking scrubScores withCands
  simp only [hcont]

theorem removeCand_withCands (p : Profile) (c' removed removed' : List Cand) (hperm : c'.Perm p.cands)
    (h : ∀ x, x ∈ removed' ↔ x ∈ removed) :
    removeCand removed' (withCands p c') =
      withCands (removeCand removed p) (reG c' (removeCand removed p).cands) := by
  rw [removeCand_re p c' removed removed' h]
  exact congrArg _ (by rw [removeCand, reG_filter, reG_all c' p.cands hperm])

/-- a scoring function whose dictionary has the declared candidates as keys, in declared order, and does not
otherwise look at that order -/
structure OrderFree (score : Profile → Outcome (List (Cand × Rat))) : Prop where
  re : ∀ q c2, c2.Perm q.cands → score (withCands q c2) = (score q).map (reSc c2)
  keys : ∀ q sc, score q = .ok sc → sc.map (·.1) = q.cands

theorem orderFree_rankings (v : List Rat) : OrderFree (fun q => scoreFromRankings q v) :=
  ⟨fun q c2 h => scoreFromRankings_re q c2 h v, fun q sc h => scoreFromRankings_keys q v sc h⟩

theorem orderFree_fpv : OrderFree firstPlaceVotes :=
  ⟨fun q c2 h => firstPlaceVotes_re q c2 h, fun q sc h => scoreFromRankings_keys q _ sc h⟩

theorem orderFree_borda : OrderFree bordaScores :=
  ⟨fun q c2 h => bordaScores_re q c2 h, fun q sc h => scoreFromRankings_keys q _ sc h⟩

theorem orderFree_ballotScores : OrderFree scoreFromBallotScores := by
  refine ⟨fun q c2 h => scoreFromBallotScores_re q c2 h, fun q sc h => ?_⟩
  rw [scoreFromBallotScores, Outcome.ite_raised_eq_ok, Outcome.ite_raised_eq_ok] at h
  rw [← Outcome.ok.inj h.2.2, keys_map]

/-- the candidates of `q` may be any duplicate-free sublist of the declared ones, listed as `reG c'` lists them -/
theorem OrderFree.re_sub {score : Profile → Outcome (List (Cand × Rat))} (hs : OrderFree score) (q : Profile)
    (c' : List Cand) (hN : c'.Nodup) (hq : GoodGroup c' q.cands) :
    score (withCands q (reG c' q.cands)) = (score q).map (reSc c') := by
  rw [hs.re q _ (reG_perm c' q.cands hN hq.1 hq.2)]
  cases hsc : score q with
  | ok sc =>
    exact congrArg Outcome.ok (reSc_restrict c' _ sc fun x hx => by rw [hs.keys q sc hsc] at hx; simpa using hx)
  | _ => rfl

theorem electRound_re (p : Profile) (c' : List Cand) (hperm : c'.Perm p.cands) (hN : p.cands.Nodup)
    (m : Nat) (tb : Option TB) (pri : List Cand) (score : Profile → Outcome (List (Cand × Rat))) (hs : OrderFree score)
    (st0 : RoundState) (rk : Ranking) (hrk : ∀ g ∈ rk, GoodGroup c' g) :
    electRound (withCands p c') m tb pri score (reRS c' st0) (reR c' rk) =
      (electRound p m tb pri score st0 rk).map (List.map (reRS c')) := by
  have hN' : c'.Nodup := hperm.nodup_iff.mpr hN
  have hp := goodGroup_of_perm hperm hN
  refine Outcome.bind_map_comm _ (electFromRanking_re c' hN' pri p _ tb (bordaScores_re p c' hperm)
    (firstPlaceVotes_re p c' hperm) hN hp.2 m rk hrk) fun r hel => ?_
  -- `remove_cand` is told the elected as they are listed; `removeCand_withCands` wants them to have the same
  -- members in both runs, and they do because the elected groups are made of declared candidates
  have hcount := electFromRanking_count pri rk m (some p) tb r (fun g hg => (hrk g hg).1)
    (fun q hq => by cases hq; exact ⟨hN, fun g hg c hc => hperm.subset ((hrk g hg).2 c hc)⟩) hel
  have hesub : ∀ g ∈ r.elected, SubOf c' g := fun g hg x hx => by
    obtain ⟨g', hg', hx'⟩ := List.mem_flatten.mp
      (hcount.2.subset (List.mem_append_left _ (List.mem_flatten.mpr ⟨g, hg, hx⟩)))
    exact (hrk g' hg').2 x hx'
  rw [removeCand_withCands p c' r.elected.flatten (reER c' r).elected.flatten hperm
    (flatten_reR_mem c' r.elected hesub)]
  refine Outcome.bind_map_comm _ (hs.re_sub _ c' hN' (hp.sublist List.filter_sublist)) fun sc1 _ => ?_
  cases r with
  | mk e rm t => cases t <;> rfl

end VK
