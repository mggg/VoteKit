/-
  Algebra of `rsum`, the model's sum of a list of rationals; `condense` keeps every
  total that is linear in the weights (`sum_condense`).
-/
import VK.Model.Utils
import VK.Lemmas.Partition
import Mathlib.Tactic.Ring
import Mathlib.Tactic.Linarith
import Mathlib.Algebra.Order.Field.Rat
import Mathlib.Algebra.BigOperators.Group.List.Basic

namespace VK

@[simp] theorem rsum_nil : rsum [] = 0 := rfl
@[simp] theorem rsum_cons (x : Rat) (xs : List Rat) : rsum (x :: xs) = x + rsum xs := rfl

theorem rsum_eq_sum (l : List Rat) : rsum l = l.sum := by
  induction l with
  | nil => rfl
  | cons x xs ih => rw [rsum_cons, ih, List.sum_cons]

@[simp] theorem rsum_append (a b : List Rat) : rsum (a ++ b) = rsum a + rsum b := by
  simp only [rsum_eq_sum, List.sum_append]

theorem rsum_flatMap {α β} (l : List α) (g : α → List β) (f : β → Rat) :
    rsum ((l.flatMap g).map f) = rsum (l.map (fun x => rsum ((g x).map f))) := by
  induction l with
  | nil => rfl
  | cons x xs ih => rw [List.flatMap_cons, List.map_append, rsum_append, ih]; rfl

theorem rsum_map_add {α} (l : List α) (f g : α → Rat) :
    rsum (l.map (fun a => f a + g a)) = rsum (l.map f) + rsum (l.map g) := by
  simp only [rsum_eq_sum, List.sum_map_add]

theorem rsum_map_mul_right {α} (l : List α) (f : α → Rat) (c : Rat) :
    rsum (l.map (fun a => f a * c)) = rsum (l.map f) * c := by
  induction l with
  | nil => exact (zero_mul c).symm
  | cons x xs ih => rw [List.map_cons, List.map_cons, rsum_cons, rsum_cons, ih, add_mul]

theorem rsum_map_mul_left {α} (l : List α) (f : α → Rat) (c : Rat) :
    rsum (l.map (fun a => c * f a)) = c * rsum (l.map f) := by
  simp only [mul_comm c, rsum_map_mul_right]

theorem rsum_nonneg (l : List Rat) (h : ∀ x ∈ l, 0 ≤ x) : 0 ≤ rsum l := by
  induction l with
  | nil => exact le_rfl
  | cons x xs ih =>
    exact add_nonneg (h x List.mem_cons_self) (ih fun y hy => h y (List.mem_cons_of_mem _ hy))

theorem totalWeight_nonneg (bs : List Ballot) (h : ∀ b ∈ bs, 0 ≤ b.weight) : 0 ≤ totalWeight bs :=
  rsum_nonneg _ (List.forall_mem_map.2 h)

theorem rsum_pos_of_pos {α} (x : List (α × Rat)) (hne : x ≠ []) (hpos : ∀ e ∈ x, (0 : Rat) < e.2) :
    0 < rsum (x.map (·.2)) := by
  cases x with
  | nil => exact absurd rfl hne
  | cons e es =>
    have h2 : 0 ≤ rsum (es.map (·.2)) := rsum_nonneg _ (by
      intro y hy
      obtain ⟨e', he', rfl⟩ := List.mem_map.1 hy
      exact (hpos e' (List.mem_cons_of_mem _ he')).le)
    exact add_pos_of_pos_of_nonneg (hpos e List.mem_cons_self) h2

theorem rsum_replicate (n : Nat) (x : Rat) : rsum (List.replicate n x) = n * x := by
  rw [rsum_eq_sum, List.sum_replicate, nsmul_eq_mul]

theorem rsum_const_mul {α} (l : List α) (x : Rat) : rsum (l.map (fun _ => x)) = (l.length : Rat) * x := by
  rw [List.map_const', rsum_replicate]

theorem rsum_zeros (l : List Rat) (h : ∀ x ∈ l, x = 0) : rsum l = 0 := by
  rw [List.eq_replicate_of_mem h, rsum_replicate, mul_zero]

@[simp] theorem rsum_map_zero {α} (l : List α) : rsum (l.map (fun _ => (0 : Rat))) = 0 := by
  rw [rsum_eq_sum, List.sum_map_zero]

theorem rsum_comm {α β} (l : List α) (m : List β) (f : α → β → Rat) :
    rsum (l.map (fun a => rsum (m.map (fun b => f a b)))) =
    rsum (m.map (fun b => rsum (l.map (fun a => f a b)))) := by
  induction l with
  | nil => exact (rsum_map_zero m).symm
  | cons x xs ih => simp only [List.map_cons, rsum_cons, ih, rsum_map_add]

theorem rsum_filter_map_eq_ite {α} (l : List α) (p : α → Bool) (f : α → Rat) :
    rsum ((l.filter p).map f) = rsum (l.map (fun a => if p a then f a else 0)) := by
  induction l with
  | nil => rfl
  | cons x xs ih => cases h : p x <;> simp [h, ih]

theorem rsum_map_ite_split {α} (l : List α) (p : α → Bool) (f g : α → Rat) :
    rsum (l.map (fun a => if p a then f a else g a)) =
      rsum ((l.filter p).map f) + rsum ((l.filter (fun a => !p a)).map g) := by
  rw [rsum_filter_map_eq_ite, rsum_filter_map_eq_ite, ← rsum_map_add]
  congr 1
  exact List.map_congr_left fun a _ => by cases p a <;> simp

theorem rsum_filter_add_filter_not {α} (l : List α) (p : α → Bool) (f : α → Rat) :
    rsum ((l.filter p).map f) + rsum ((l.filter (fun a => !p a)).map f) = rsum (l.map f) := by
  rw [← rsum_map_ite_split]
  simp only [ite_self]

theorem rsum_map_ite_const {α} (l : List α) (p : α → Bool) (x : Rat) :
    rsum (l.map (fun a => if p a then x else 0)) = ((l.filter p).length : Rat) * x := by
  rw [← rsum_filter_map_eq_ite l p (fun _ => x), rsum_const_mul]

theorem rsum_map_ite_eq {α} [DecidableEq α] (l : List α) (hn : l.Nodup) (a : α) (x : Rat) :
    rsum (l.map fun c => if a = c then x else 0) = if a ∈ l then x else 0 := by
  induction l with
  | nil => rfl
  | cons y ys ih =>
    rw [List.nodup_cons] at hn
    rw [List.map_cons, rsum_cons, ih hn.2]
    by_cases hy : a = y
    · rw [if_pos hy, if_neg (hy ▸ hn.1), if_pos (hy ▸ List.mem_cons_self), add_zero]
    · simp only [List.mem_cons, hy, false_or, if_false, zero_add]

theorem rsum_map_single {α} [DecidableEq α] (l : List α) (a : α) (f : α → Rat) (hmem : a ∈ l) (hn : l.Nodup)
    (h0 : ∀ b ∈ l, b ≠ a → f b = 0) : rsum (l.map f) = f a := by
  have : ∀ b ∈ l, f b = if a = b then f a else 0 := fun b hb => by
    by_cases e : a = b
    · rw [if_pos e, e]
    · rw [if_neg e, h0 b hb (Ne.symm e)]
  rw [List.map_congr_left this, rsum_map_ite_eq l hn, if_pos hmem]

theorem rsum_by_key {β κ} [DecidableEq κ] (keys : List κ) (hn : keys.Nodup) (bs : List β) (key : β → κ) (w : β → Rat)
    (hk : ∀ b ∈ bs, key b ∈ keys) :
    rsum (keys.map (fun v => rsum ((bs.filter (fun b => key b = v)).map w))) = rsum (bs.map w) := by
  -- sum over the ballots first: each `b` is counted under its own key only
  simp only [rsum_filter_map_eq_ite, decide_eq_true_eq]
  rw [rsum_comm]
  exact congrArg rsum (List.map_congr_left fun b hb =>
    (rsum_map_ite_eq keys hn (key b) (w b)).trans (if_pos (hk b hb)))

theorem rsum_range_ite (m j : Nat) (hj : j < m + 1) (A B : Rat) :
    rsum ((List.range (m + 1)).map (fun i => if i = j then A else B)) = A + (m : Rat) * B := by
  have : (fun i => if i = j then A else B) = fun i => (if i = j then A - B else 0) + B := by
    funext i; split <;> ring
  rw [this, rsum_map_add, rsum_map_single _ j _ (List.mem_range.2 hj) List.nodup_range
    (fun b _ hb => if_neg hb), if_pos rfl, List.map_const', rsum_replicate, List.length_range]
  push_cast
  ring

theorem rsum_map_div_mul {α} (l : List α) (w s : α → Rat) (T : Rat) :
    rsum (l.map (fun a => w a / T * s a)) = rsum (l.map (fun a => w a * s a)) / T := by
  rw [div_eq_mul_inv, ← rsum_map_mul_right]
  simp only [div_eq_mul_inv, mul_right_comm]

theorem rsum_map_div_total {α} (l : List α) (w : α → Rat) (hZ : rsum (l.map w) ≠ 0) :
    rsum (l.map (fun a => w a / rsum (l.map w))) = 1 := by
  simp only [div_eq_mul_inv]
  rw [rsum_map_mul_right, mul_inv_cancel₀ hZ]

def accSum (g : Content → Rat) (acc : List (Content × Rat)) : Rat :=
  rsum (acc.map (fun kw => g kw.1 * kw.2))

theorem accSum_accAdd (g : Content → Rat) (k : Content) (w : Rat) (acc : List (Content × Rat)) :
    accSum g (accAdd k w acc) = accSum g acc + g k * w := by
  induction acc with
  | nil => simp [accSum, accAdd]
  | cons x xs ih =>
    unfold accSum at ih ⊢
    rw [accAdd]
    split
    · next h => simp only [List.map_cons, rsum_cons, h]; ring
    · simp only [List.map_cons, rsum_cons, ih]; ring

theorem accSum_foldl (g : Content → Rat) (bs : List Ballot) (acc : List (Content × Rat)) :
    accSum g (bs.foldl (fun acc b => accAdd b.content b.weight acc) acc) =
      accSum g acc + rsum (bs.map (fun b => g b.content * b.weight)) := by
  induction bs generalizing acc with
  | nil => exact (add_zero _).symm
  | cons b bs ih => rw [List.foldl_cons, ih, accSum_accAdd, List.map_cons, rsum_cons, add_assoc]

/-- `g` reads only the content of a ballot, so merging ballots of equal content does not change the total -/
theorem sum_condense (g : Content → Rat) (bs : List Ballot) :
    rsum ((condense bs).map (fun b => g b.content * b.weight)) =
    rsum (bs.map (fun b => g b.content * b.weight)) := by
  have := accSum_foldl g bs []
  rw [accSum, accSum, List.map_nil, rsum_nil, zero_add] at this
  rw [← this, condense, List.map_map]
  rfl

theorem rsum_map_perm {α} {l l' : List α} (h : l.Perm l') (f : α → Rat) : rsum (l.map f) = rsum (l'.map f) := by
  rw [rsum_eq_sum, rsum_eq_sum]
  exact (h.map f).sum_eq

theorem tieDivisor_cons (s : List Cand) (rest : Ranking) :
    tieDivisor (s :: rest) = fact s.length * tieDivisor rest := by
  simp only [tieDivisor, ← List.prod_eq_foldl, List.map_cons, List.prod_cons]

end VK
