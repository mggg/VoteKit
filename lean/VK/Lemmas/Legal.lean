/-
  For C02: the transfers of a round scale exactly the ballots counted for the winners
  (fractional rule) or change nothing (full-weight rule).
-/
import VK.Lemmas.PSC

namespace VK

/-- every ballot counted for a winner is scaled by that winner's transfer value, all others are
left alone -/
def scaleAll (hop : List Cand) (q : Int) (tallyOf : Cand → Rat) (ws : List Cand) (bs : List PBallot) :
    List PBallot :=
  bs.map (fun b =>
    match topOf hop b.1 with
    | some w => if ws.contains w then (b.1, b.2 * ((tallyOf w - q) / tallyOf w)) else b
    | none => b)

/-- The transfer values are those of the tallies at the beginning of the round: the transfer of one winner
does not change the tally of another. -/
theorem applyTransfers_fractional_pointwise (cfg : STVCfg) (hop : List Cand) (q : Int)
    (sample : Cand → List (List Cand × Nat)) (hf : cfg.transfer = .fractional)
    (ws : List Cand) (bs bs' : List PBallot) (hws : ws.Nodup)
    (h : applyTransfers cfg hop q sample ws bs = .ok bs') :
    bs' = scaleAll hop q (fun w => tally bs hop w) ws bs := by
  induction ws generalizing bs with
  | nil =>
    obtain rfl : bs = bs' := Outcome.ok.inj h
    refine (List.map_id' bs).symm.trans (List.map_congr_left fun b _ => ?_)
    cases topOf hop b.1 <;> rfl
  | cons w rest ih =>
    obtain ⟨bs1, h1, h⟩ := applyTransfers_cons_ok.1 h
    obtain ⟨_, rfl⟩ := applyTransfer_fractional_eq cfg hop q _ bs bs1 w hf h1
    rw [List.nodup_cons] at hws
    rw [ih _ hws.2 h]
    unfold scaleAll scaleLed
    rw [List.map_map]
    refine List.map_congr_left fun b _ => ?_
    -- `b` is led by `w` (scaled now, not a later winner), by another candidate (whose tally the
    -- transfer of `w` leaves alone) or by nobody
    cases ht : topOf hop b.1 with
    | none => simp only [Function.comp, ht, reduceCtorEq, if_false]
    | some w' =>
      by_cases hww : w' = w
      · subst hww
        simp only [Function.comp, ht, if_true, List.contains_cons, beq_self_eq_true, Bool.true_or,
          List.contains_iff_mem, hws.1, if_false]
      · have htl := tally_scaleLed_other hop w w' ((tally bs hop w - q) / tally bs hop w) bs hww
        unfold scaleLed at htl
        simp only [Function.comp, ht, Option.some.injEq, hww, if_false, htl, List.contains_cons,
          beq_false_of_ne hww, Bool.false_or]

/-- the full-weight rule of SequentialRCV changes no weight -/
theorem applyTransfers_full (cfg : STVCfg) (hop : List Cand) (q : Int) (sample : Cand → List (List Cand × Nat))
    (ws : List Cand) (bs bs' : List PBallot) (hf : cfg.transfer = .full)
    (h : applyTransfers cfg hop q sample ws bs = .ok bs') : bs' = bs := by
  induction ws generalizing bs with
  | nil => cases h; rfl
  | cons w rest ih =>
    obtain ⟨bs1, h1, h⟩ := applyTransfers_cons_ok.1 h
    rw [ih bs1 h, applyTransfer_full cfg hop q _ bs bs1 w hf h1]

end VK
