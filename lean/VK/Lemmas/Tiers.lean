/-
  Dominating tiers in a semicomplete digraph, abstractly: candidates are compared by
  how many candidates they reach (`rc`); a larger count is a strict win, equal counts are mutual
  reachability, and a class of equal count cannot be split into a part that beats the rest.
-/
import VK.Model.Pairwise
import Mathlib.Logic.Relation
import Mathlib.Data.List.Basic
import Mathlib.Tactic.Linarith

namespace VK
namespace Tiers

def Edge (cands : List Cand) (E : Cand → Cand → Bool) (a b : Cand) : Prop :=
  a ∈ cands ∧ b ∈ cands ∧ E a b = true

abbrev R (cands : List Cand) (E : Cand → Cand → Bool) : Cand → Cand → Prop :=
  Relation.ReflTransGen (Edge cands E)

/-- semicomplete -/
def Total (cands : List Cand) (E : Cand → Cand → Bool) : Prop :=
  ∀ a ∈ cands, ∀ b ∈ cands, a ≠ b → E a b = true ∨ E b a = true

theorem comparable {cands : List Cand} {E} (ht : Total cands E) {a b : Cand}
    (ha : a ∈ cands) (hb : b ∈ cands) : R cands E a b ∨ R cands E b a := by
  by_cases h : a = b
  · subst h; exact Or.inl .refl
  · rcases ht a ha b hb h with h1 | h1
    · exact Or.inl (.single ⟨ha, hb, h1⟩)
    · exact Or.inr (.single ⟨hb, ha, h1⟩)

/-- path crossing: if a path goes from outside `P` to inside `P`, some edge crosses. -/
theorem crossing {cands : List Cand} {E} (P : Cand → Prop) {b a : Cand}
    (h : R cands E b a) (hb : ¬ P b) (ha : P a) :
    ∃ x y, R cands E b x ∧ Edge cands E x y ∧ R cands E y a ∧ ¬ P x ∧ P y := by
  induction h using Relation.ReflTransGen.head_induction_on with
  | refl => exact absurd ha hb
  | head hxy hya ih =>
    rename_i x y
    by_cases hy : P y
    · exact ⟨x, y, .refl, hxy, hya, hb, hy⟩
    · obtain ⟨u, v, h1, h2, h3, h4, h5⟩ := ih hy
      exact ⟨u, v, .head hxy h1, h2, h3, h4, h5⟩

theorem filter_length_lt {l : List Cand} {p q : Cand → Bool} (hpq : ∀ c ∈ l, p c = true → q c = true)
    {a : Cand} (ha : a ∈ l) (hq : q a = true) (hp : p a = false) :
    (l.filter p).length < (l.filter q).length := by
  -- `filter p` is `filter p` of `filter q`, which loses `a`
  have : l.filter p = (l.filter q).filter p := by
    rw [List.filter_filter]
    exact List.filter_congr fun c hc => by cases h : p c <;> simp [hpq c hc, h]
  rw [this]
  exact List.length_filter_lt_length_iff_exists.2 ⟨a, List.mem_filter.2 ⟨ha, hq⟩, by simp [hp]⟩

open Classical in
/-- reach count including self, as a specification -/
noncomputable def rc (cands : List Cand) (E : Cand → Cand → Bool) (a : Cand) : Nat :=
  (cands.filter (fun b => decide (R cands E a b))).length

theorem rc_mono {cands : List Cand} {E} {a b : Cand} (h : R cands E a b) :
    rc cands E b ≤ rc cands E a := by
  unfold rc
  apply List.Sublist.length_le
  apply List.monotone_filter_right
  intro c hc
  simp only [decide_eq_true_eq] at hc ⊢
  exact h.trans hc

theorem rc_strict {cands : List Cand} {E} {a b : Cand} (ha : a ∈ cands)
    (h : R cands E a b) (h' : ¬ R cands E b a) :
    rc cands E b < rc cands E a := by
  unfold rc
  apply filter_length_lt (a := a) _ ha
  · simpa using (Relation.ReflTransGen.refl : R cands E a a)
  · simpa using h'
  · intro c _ hc; simp only [decide_eq_true_eq] at hc ⊢; exact h.trans hc

theorem beats_of_rc_lt {cands : List Cand} {E} (ht : Total cands E) {a b : Cand}
    (ha : a ∈ cands) (hb : b ∈ cands) (hlt : rc cands E b < rc cands E a) :
    E a b = true ∧ E b a = false := by
  have hba : E b a = false := by
    by_contra hc
    exact (rc_mono (.single ⟨hb, ha, Bool.eq_true_of_not_eq_false hc⟩)).not_gt hlt
  refine ⟨?_, hba⟩
  rcases ht a ha b hb (fun e => hlt.ne' (e ▸ rfl)) with h1 | h1
  · exact h1
  · rw [hba] at h1; cases h1

theorem mutual_of_rc_eq {cands : List Cand} {E} (ht : Total cands E) {a b : Cand}
    (ha : a ∈ cands) (hb : b ∈ cands) (heq : rc cands E a = rc cands E b) :
    R cands E a b ∧ R cands E b a := by
  rcases comparable ht ha hb with h | h
  · exact ⟨h, by_contra fun hc => (rc_strict ha h hc).ne' heq⟩
  · exact ⟨by_contra fun hc => (rc_strict hb h hc).ne heq, h⟩

theorem reaches_of_rc_le {cands : List Cand} {E} (ht : Total cands E) {x d : Cand}
    (hx : x ∈ cands) (hd : d ∈ cands) (h : rc cands E d ≤ rc cands E x) : R cands E x d :=
  (comparable ht hx hd).elim id fun h1 => by_contra fun hc => (rc_strict hd h1 hc).not_ge h

/-- a tier (set of equal reach count) cannot be split into a part `A` that strictly beats the rest:
some member outside `A` has an edge into `A`. -/
theorem tier_unsplittable {cands : List Cand} {E} (ht : Total cands E)
    (A : Cand → Prop) {a b : Cand} (ha : a ∈ cands) (hb : b ∈ cands)
    (heq : rc cands E a = rc cands E b) (hA : A a) (hB : ¬ A b) :
    ∃ x y, x ∈ cands ∧ y ∈ cands ∧ rc cands E x = rc cands E a ∧ rc cands E y = rc cands E a ∧
      ¬ A x ∧ A y ∧ E x y = true := by
  -- on the way back from `b` to `a` some edge `x → y` enters `A`; both ends lie between `b` and `a`
  obtain ⟨x, y, hbx, hxy, hya, hx, hy⟩ := crossing A (mutual_of_rc_eq ht ha hb heq).2 hB hA
  exact ⟨x, y, hxy.1, hxy.2.1,
    le_antisymm ((rc_mono hbx).trans heq.ge) (rc_mono (.head hxy hya)),
    le_antisymm ((rc_mono (hbx.tail hxy)).trans heq.ge) (rc_mono hya), hx, hy, hxy.2.2⟩

end Tiers
end VK
