/-
  The STV count with its hopeful candidates listed in another order: tallies, held profile, transfers (fractional
  and full-weight transfers of distinct winners commute), the choice of winners and of the loser, one step; and
  every round an STV count records mentions declared candidates only.
-/
import VK.Lemmas.ReorderScore
import VK.Lemmas.PSC
namespace VK

def reCS (c' : List Cand) (S : CState) : CState :=
  { bs := S.bs, hopeful := reG c' S.hopeful, nElected := S.nElected }

theorem reCS_bs (c' : List Cand) (S : CState) : (reCS c' S).bs = S.bs := rfl
theorem reCS_hopeful (c' : List Cand) (S : CState) : (reCS c' S).hopeful = reG c' S.hopeful := rfl
theorem reCS_nElected (c' : List Cand) (S : CState) : (reCS c' S).nElected = S.nElected := rfl

/-! ### the count only asks whether a candidate is hopeful -/

theorem topOf_re (c' h : List Cand) (hs : SubOf c' h) (r : List Cand) : topOf (reG c' h) r = topOf h r := by
  unfold topOf
  congr 1
  funext c; exact contains_reG c' h hs c

theorem tally_re (c' h : List Cand) (hs : SubOf c' h) (bs : List PBallot) (c : Cand) :
    tally bs (reG c' h) c = tally bs h c := by
  unfold tally
  simp only [topOf_re c' h hs]

theorem tallies_re (c' h : List Cand) (hs : SubOf c' h) (bs : List PBallot) :
    tallies bs (reG c' h) = reSc c' (tallies bs h) := by
  unfold reSc
  rw [tallies_keys]
  unfold tallies
  apply List.map_congr_left; intro c hc
  rw [tally_re c' h hs, lookupScore_map h (fun c => tally bs h c) c ((mem_reG_sub c' h hs c).mp hc)]

theorem currentProfile_re (c' : List Cand) (S : CState) (hs : SubOf c' S.hopeful) :
    currentProfile (reCS c' S) = withCands (currentProfile S) (reG c' S.hopeful) := by
  unfold currentProfile reCS withCands currentBallots
  simp only [contains_reG c' S.hopeful hs]

theorem contRanking_re (c' h : List Cand) (hs : SubOf c' h) (w : Cand) (r : List Cand) :
    contRanking (reG c' h) w r = contRanking h w r := by
  unfold contRanking
  simp only [contains_reG c' h hs]

theorem randomAssign_re (c' h : List Cand) (hs : SubOf c' h) (w : Cand) (bs : List PBallot)
    (need : List (List Cand × Nat)) : randomAssign (reG c' h) w bs need = randomAssign h w bs need := by
  induction bs generalizing need with
  | nil => rfl
  | cons b rest ih => simp only [randomAssign, topOf_re c' h hs, contRanking_re c' h hs, ih]

theorem applyTransfer_re (c' h : List Cand) (hs : SubOf c' h) (cfg : STVCfg) (q : Int)
    (sample : List (List Cand × Nat)) (bs : List PBallot) (w : Cand) :
    applyTransfer cfg (reG c' h) q sample bs w = applyTransfer cfg h q sample bs w := by
  unfold applyTransfer
  simp only [tally_re c' h hs, topOf_re c' h hs, contRanking_re c' h hs, randomAssign_re c' h hs]

theorem applyTransfers_re (c' h : List Cand) (hs : SubOf c' h) (cfg : STVCfg) (q : Int)
    (sample : Cand → List (List Cand × Nat)) (ws : List Cand) (bs : List PBallot) :
    applyTransfers cfg (reG c' h) q sample ws bs = applyTransfers cfg h q sample ws bs := by
  induction ws generalizing bs with
  | nil => rfl
  | cons w rest ih => simp only [applyTransfers, applyTransfer_re c' h hs, ih]

/-! ### transfers of distinct winners commute (fractional and full-weight) -/

theorem scaleLed_comm (h : List Cand) (w w' : Cand) (hne : w' ≠ w) (x y : Rat) (bs : List PBallot) :
    scaleLed h w' y (scaleLed h w x bs) = scaleLed h w x (scaleLed h w' y bs) := by
  unfold scaleLed
  rw [List.map_map, List.map_map]
  apply List.map_congr_left; intro b _
  simp only [Function.comp_def]
  by_cases hb : topOf h b.1 = some w
  · have hww : ¬ w = w' := fun e => hne e.symm
    simp [hb, hww]
  · by_cases hb' : topOf h b.1 = some w'
    · simp [hb', hne]
    · simp [hb, hb']

theorem applyTransfer_swap (cfg : STVCfg) (hnr : cfg.transfer ≠ .random) (h : List Cand) (q : Int)
    (sample : Cand → List (List Cand × Nat)) (x y : Cand) (bs : List PBallot) :
    (applyTransfer cfg h q (sample x) bs x >>= fun b1 => applyTransfer cfg h q (sample y) b1 y) =
    (applyTransfer cfg h q (sample y) bs y >>= fun b1 => applyTransfer cfg h q (sample x) b1 x) := by
  by_cases hxy : x = y
  · subst hxy; rfl
  · cases hf : cfg.transfer with
    | random => exact absurd hf hnr
    | full => simp only [applyTransfer, hf, Outcome.bind_ok]
    | fractional =>
      -- scaling one pile leaves the other's tally alone: either side raises iff one of the two piles is empty
      simp only [applyTransfer_of_fractional hf]
      by_cases hx : tally bs h x = 0 <;> by_cases hy : tally bs h y = 0 <;>
        simp only [hx, hy, if_true, if_false, Outcome.bind_ok, Outcome.bind_raised,
          tally_scaleLed_other h x y _ _ (Ne.symm hxy), tally_scaleLed_other h y x _ _ hxy,
          scaleLed_comm h x y (Ne.symm hxy)]

theorem applyTransfers_perm (cfg : STVCfg) (hnr : cfg.transfer ≠ .random) (h : List Cand) (q : Int)
    (sample : Cand → List (List Cand × Nat)) (ws ws' : List Cand) (hp : ws.Perm ws') (bs : List PBallot) :
    applyTransfers cfg h q sample ws bs = applyTransfers cfg h q sample ws' bs := by
  induction hp generalizing bs with
  | nil => rfl
  | cons x _ ih => exact Outcome.bind_congr_ok fun b1 _ => ih b1
  | swap x y l =>
    have assoc : ∀ (a b : Cand), applyTransfers cfg h q sample (a :: b :: l) bs =
        ((applyTransfer cfg h q (sample a) bs a >>= fun b1 => applyTransfer cfg h q (sample b) b1 b) >>=
          fun b2 => applyTransfers cfg h q sample l b2) := by
      intro a b
      simp only [applyTransfers]
      cases applyTransfer cfg h q (sample a) bs a <;> rfl
    rw [assoc y x, assoc x y, applyTransfer_swap cfg hnr h q sample y x bs]
  | trans _ _ ih1 ih2 => exact (ih1 bs).trans (ih2 bs)

/-- what a step of the re-listed count needs of the state it starts from -/
structure ReInv (c' : List Cand) (S : CState) (prev : RoundState) : Prop where
  nodup : S.hopeful.Nodup
  sub : SubOf c' S.hopeful
  keys : prev.scores.map (·.1) = S.hopeful
  rem : prev.remaining = scoreToRanking prev.scores

theorem ReInv.good {c' : List Cand} {S : CState} {prev : RoundState} (h : ReInv c' S prev) :
    GoodGroup c' S.hopeful := ⟨h.nodup, h.sub⟩

theorem ReInv.goodKeys {c' : List Cand} {S : CState} {prev : RoundState} (h : ReInv c' S prev) :
    GoodGroup c' (prev.scores.map (·.1)) := h.keys ▸ h.good

theorem ReInv.groups {c' : List Cand} {S : CState} {prev : RoundState} (h : ReInv c' S prev) :
    ∀ g ∈ prev.remaining, GoodGroup c' g := by
  rw [h.rem]
  exact scoreToRanking_groups_good c' prev.scores h.goodKeys.1 h.goodKeys.2 true

theorem ReInv.perm {c' : List Cand} {S : CState} {prev : RoundState} (h : ReInv c' S prev) :
    prev.remaining.flatten.Perm S.hopeful := by
  rw [h.rem, ← h.keys]; exact scoreToRanking_perm prev.scores

theorem ReInv.init {c' : List Cand} {p : Profile} {sc0 : List (Cand × Rat)} (hN : p.cands.Nodup)
    (hs : SubOf c' p.cands) (hk : sc0.map (·.1) = p.cands) :
    ReInv c' (stvInitState p) (initialState p.cands (some sc0)) := ⟨hN, hs, hk, rfl⟩

theorem reInv_step (c' : List Cand) (cfg : STVCfg) (init : Profile) (q : Int) (ω : STVOracle) (rnd : Nat)
    (S S' : CState) (prev r : RoundState) (hI : ReInv c' S prev)
    (h : stvStep cfg init q ω rnd S prev = .ok (S', r)) : ReInv c' S' r := by
  have hl := stvStep_linked cfg init q ω rnd S S' prev r h
  have hhop : GoodGroup c' S'.hopeful := by
    rcases stvStep_eq_ok.1 h with ⟨_, _, _, -, -, -, rfl, -⟩ | ⟨-, -, rfl, -⟩ | ⟨-, -, _, _, _, -, -, rfl, -⟩
    · exact hI.good.sublist List.filter_sublist
    · exact ⟨List.nodup_nil, nofun⟩
    · exact hI.good.sublist List.filter_sublist
  exact ⟨hhop.1, hhop.2, by rw [hl.1, tallies_keys], hl.2⟩

theorem group_same_score (sc : List (Cand × Rat)) (hk : (sc.map (·.1)).Nodup) (g : List Cand)
    (hg : g ∈ scoreToRanking sc true) : ∃ v, ∀ c ∈ g, lookupScore sc c = v :=
  scoreToRanking_group_score hk hg

theorem takeWhile_congr_mem {α} (p q : α → Bool) (l : List α) (h : ∀ x ∈ l, p x = q x) :
    l.takeWhile p = l.takeWhile q := by
  induction l with
  | nil => rfl
  | cons a rest ih =>
    rw [List.forall_mem_cons] at h
    simp only [List.takeWhile_cons, h.1, ih h.2]

/-- the quota test of a simultaneous round looks at the first member of a group; the members of a group share
their score, so the test says: non-empty, and that score reaches `q` - whoever is listed first -/
theorem headTest_re (c' : List Cand) (sc : List (Cand × Rat)) (hk : GoodGroup c' (sc.map (·.1))) (q : Int)
    (g : List Cand) : g ∈ scoreToRanking sc true →
    (match reG c' g with
      | [] => false
      | c :: _ => decide ((q : Rat) ≤ lookupScore (reSc c' sc) c)) =
    (match g with
      | [] => false
      | c :: _ => decide ((q : Rat) ≤ lookupScore sc c)) := by
  intro hg
  have hkey : ∀ c ∈ g, c ∈ sc.map (·.1) := fun c hc =>
    (scoreToRanking_perm sc).subset (List.mem_flatten.mpr ⟨g, hg, hc⟩)
  have hgs : SubOf c' g := fun c hc => hk.2 c (hkey c hc)
  obtain ⟨v, hv⟩ := group_same_score sc hk.1 g hg
  have hv' : ∀ c ∈ reG c' g, lookupScore (reSc c' sc) c = v := fun c hc => by
    have hcg := (mem_reG_sub c' g hgs c).mp hc
    rw [lookupScore_reSc c' sc c (hkey c hcg) (hgs c hcg), hv c hcg]
  have test : ∀ (l : List Cand) (f : Cand → Rat), (∀ c ∈ l, f c = v) →
      (match l with
        | [] => false
        | c :: _ => decide ((q : Rat) ≤ f c)) = (!l.isEmpty && decide ((q : Rat) ≤ v)) := by
    intro l f hl
    cases l with
    | nil => rfl
    | cons a t => simp only [hl a List.mem_cons_self, List.isEmpty_cons, Bool.not_false, Bool.true_and]
  rw [test _ _ hv', test _ _ hv, reG_isEmpty c' g hgs]

def reChoice (c' : List Cand) (x : Ranking × List (List Cand × Ranking)) : Ranking × List (List Cand × Ranking) :=
  (reR c' x.1, x.2.map (reTb c'))

theorem electChoice_re (c' : List Cand) (hN : c'.Nodup) (cfg : STVCfg) (q : Int) (ω : STVOracle) (rnd : Nat)
    (S : CState) (prev : RoundState) (hI : ReInv c' S prev) :
    electChoice cfg q ω rnd (reCS c' S) (reRS c' prev) = (electChoice cfg q ω rnd S prev).map (reChoice c') := by
  unfold electChoice
  rw [apply_ite (Outcome.map (reChoice c'))]
  refine if_congr Iff.rfl (congrArg (fun l => Outcome.ok (l, [])) ?_) ?_
  · show (reR c' prev.remaining).takeWhile _ = reR c' (prev.remaining.takeWhile _)
    unfold reR
    rw [List.takeWhile_map]
    exact congrArg _ (takeWhile_congr_mem _ _ _ fun g hg => headTest_re c' prev.scores hI.goodKeys q g (hI.rem ▸ hg))
  · rw [currentProfile_re c' S hI.sub]
    refine Outcome.bind_map_comm _ (electFromRanking_re c' hN (ω.pri rnd) (currentProfile S) _ cfg.tiebreak
      (orderFree_borda.re_sub (currentProfile S) c' hN hI.good) (orderFree_fpv.re_sub (currentProfile S) c' hN hI.good)
      hI.nodup hI.sub 1 prev.remaining hI.groups) fun r _ => ?_
    cases r with
    | mk e rm tb => cases tb <;> rfl

def reLoser (c' : List Cand) (x : Cand × List (List Cand × Ranking)) : Cand × List (List Cand × Ranking) :=
  (x.1, x.2.map (reTb c'))

theorem loserChoice_re (c' : List Cand) (hN : c'.Nodup) (init : Profile) (hperm : c'.Perm init.cands)
    (hNi : init.cands.Nodup) (ω : STVOracle) (rnd : Nat) (lowest : List Cand) (hg : GoodGroup c' lowest) :
    loserChoice (withCands init c') ω rnd (reG c' lowest) = (loserChoice init ω rnd lowest).map (reLoser c') := by
  have hi := goodGroup_of_perm hperm hNi
  unfold loserChoice
  rw [reG_length c' lowest hN hg.1 hg.2, apply_ite (Outcome.map (reLoser c'))]
  refine if_ctx_congr Iff.rfl (fun _ => ?_) (fun hlen => ?_)
  · refine Outcome.bind_map_comm _ (tiebreakSet_re c' hN (ω.pri rnd) lowest hg init (withCands init c') .firstPlace
      (bordaScores_re init c' hperm) (firstPlaceVotes_re init c' hperm) hNi hi.2) fun t ht => ?_
    -- the resolved order is made of singletons of declared candidates, which re-listing leaves alone
    have hspec := tiebreakSet_spec (ω.pri rnd) lowest (some init) .firstPlace t hg.1
      (fun p hp => by cases hp; exact ⟨hNi, fun c hc => hperm.subset (hg.2 c hc)⟩) ht
    have hre : reR c' t = t := reR_of_singletons c' hN t hspec.2 fun c hc => hg.2 c (hspec.1.subset hc)
    rw [hre]
    cases t.getLast? with
    | none => rfl
    | some g =>
      match g with
      | [] => rfl
      | [c] => exact congrArg (fun t' => Outcome.ok (c, [(reG c' lowest, t')])) hre.symm
      | _ :: _ :: _ => rfl
  · match lowest, hg, hlen with
    | [], _, _ => rw [reG_nil]; rfl
    | [c], hg, _ => rw [reG_singleton c' hN c (hg.2 c (List.mem_singleton_self c))]; rfl
    | _ :: _ :: _, _, hlen => exact absurd (Nat.succ_lt_succ (Nat.succ_pos _)) hlen

theorem stvInitState_re (p : Profile) (c' : List Cand) (hperm : c'.Perm p.cands) :
    stvInitState (withCands p c') = reCS c' (stvInitState p) := by
  unfold stvInitState reCS
  rw [reG_all c' p.cands hperm]
  rfl

def reStep (c' : List Cand) (x : CState × RoundState) : CState × RoundState := (reCS c' x.1, reRS c' x.2)

theorem above_isEmpty_re (c' : List Cand) (sc : List (Cand × Rat)) (hk : GoodGroup c' (sc.map (·.1))) (q : Int) :
    ((reSc c' sc).filter (fun cs => decide ((q : Rat) ≤ cs.2))).isEmpty =
      (sc.filter (fun cs => decide ((q : Rat) ≤ cs.2))).isEmpty := by
  rw [Bool.eq_iff_iff, List.isEmpty_iff, List.isEmpty_iff, List.filter_eq_nil_iff, List.filter_eq_nil_iff]
  simp only [mem_reSc c' sc hk.1 hk.2]

/-- the round recorded after a step that leaves `hop` hopeful, and its re-listed twin -/
theorem nextRound_re (c' : List Cand) (bs : List PBallot) (hop : List Cand) (hg : GoodGroup c' hop) (n rnd : Nat)
    (el elim elim' : Ranking) (helim : elim' = reR c' elim) (tbs : List (List Cand × Ranking)) :
    ((⟨bs, reG c' hop, n⟩, ⟨rnd, scoreToRanking (tallies bs (reG c' hop)), reR c' el, elim', tbs.map (reTb c'),
        tallies bs (reG c' hop)⟩) : CState × RoundState) =
      reStep c' (⟨bs, hop, n⟩, ⟨rnd, scoreToRanking (tallies bs hop), el, elim, tbs, tallies bs hop⟩) := by
  have hk : GoodGroup c' ((tallies bs hop).map (·.1)) := (tallies_keys bs hop).symm ▸ hg
  rw [tallies_re c' hop hg.2, scoreToRanking_re c' _ hk.1 hk.2, helim]
  rfl

theorem stvStep_re (c' : List Cand) (hN : c'.Nodup) (cfg : STVCfg) (hnr : cfg.transfer ≠ .random)
    (init : Profile) (hperm : c'.Perm init.cands) (hNi : init.cands.Nodup) (q : Int) (ω : STVOracle) (rnd : Nat)
    (S : CState) (prev : RoundState) (hI : ReInv c' S prev) :
    stvStep cfg (withCands init c') q ω rnd (reCS c' S) (reRS c' prev) =
      (stvStep cfg init q ω rnd S prev).map (reStep c') := by
  unfold stvStep
  simp only [reRS_scores, reRS_remaining, reCS_hopeful, reCS_bs, reCS_nElected,
    above_isEmpty_re c' prev.scores hI.goodKeys, reG_length c' S.hopeful hN hI.nodup hI.sub,
    apply_ite (Outcome.map (reStep c'))]
  refine if_congr Iff.rfl ?_ (if_congr Iff.rfl ?_ ?_)
  · refine Outcome.bind_map_comm _ (electChoice_re c' hN cfg q ω rnd S prev hI) fun x hec => ?_
    obtain ⟨eg, tbs⟩ := x
    have hspec := electChoice_spec cfg q ω rnd S prev eg tbs hI.nodup hI.perm hec
    have hwperm := flatten_reR_perm c' hN eg fun g hg =>
      ⟨(List.nodup_flatten.1 hspec.1).1 g hg, fun x hx => hI.sub x (hspec.2 x (List.mem_flatten.mpr ⟨g, hg, hx⟩))⟩
    have hcont : ∀ x, (reR c' eg).flatten.contains x = eg.flatten.contains x :=
      contains_of_mem_iff fun _ => hwperm.mem_iff
    show applyTransfers cfg (reG c' S.hopeful) q (ω.sample rnd) (reR c' eg).flatten S.bs >>= _ = _
    rw [applyTransfers_re c' S.hopeful hI.sub, applyTransfers_perm cfg hnr S.hopeful q (ω.sample rnd) _ _ hwperm,
      Outcome.map_bind]
    refine Outcome.bind_congr_ok fun bs' _ => ?_
    simp only [reChoice, hcont, hwperm.length_eq, ← reG_filter]
    exact congrArg Outcome.ok (nextRound_re c' bs' _ (hI.good.sublist List.filter_sublist) _ rnd eg [] [] rfl tbs)
  · simp only [Outcome.pure_eq, Outcome.map_ok, reStep, reCS, reRS, reR, reSc, reG_nil, List.map_nil]
  · rw [show (reR c' prev.remaining).getLast? = prev.remaining.getLast?.map (reG c') from List.getLast?_map ..]
    cases hl : prev.remaining.getLast? with
    | none => rfl
    | some lowest =>
      have hlg : GoodGroup c' lowest := hI.groups lowest (List.mem_of_getLast? hl)
      refine Outcome.bind_map_comm _ (loserChoice_re c' hN init hperm hNi ω rnd lowest hlg) fun x hlc => ?_
      obtain ⟨loser, tbs⟩ := x
      have hmem : loser ∈ lowest := loserChoice_mem init ω rnd lowest loser tbs hlg.1 hNi
        (fun x hx => hperm.subset (hlg.2 x hx)) hlc
      simp only [reLoser, ← reG_filter]
      exact congrArg Outcome.ok (nextRound_re c' S.bs _ (hI.good.sublist List.filter_sublist) _ rnd [] [[loser]] _
        (congrArg (fun g => [g]) (reG_singleton c' hN loser (hlg.2 loser hmem)).symm) tbs)

/-! ### every recorded round mentions declared candidates only

(`ReInv` at the trivial re-listing `c' = init.cands` is the run invariant used.) -/

theorem electChoice_tbs_mem (cfg : STVCfg) (q : Int) (ω : STVOracle) (rnd : Nat) (S : CState) (prev : RoundState)
    (g : Ranking) (tbs : List (List Cand × Ranking)) (hn : S.hopeful.Nodup)
    (hrem : prev.remaining.flatten.Perm S.hopeful)
    (h : electChoice cfg q ω rnd S prev = .ok (g, tbs)) :
    ∀ t ∈ tbs, ∀ x ∈ t.1 ++ t.2.flatten, x ∈ S.hopeful := by
  unfold electChoice at h
  split at h
  · cases h; nofun
  · obtain ⟨r, he, h⟩ := Outcome.bind_eq_ok.mp h
    cases h
    have hr := electFromRanking_mentions (ω.pri rnd) prev.remaining 1 (some (currentProfile S)) cfg.tiebreak r
      (fun x hx => (List.nodup_flatten.1 (hrem.nodup_iff.2 hn)).1 x hx)
      (fun p hp => by cases hp; exact ⟨hn, fun x hx c hc => hrem.subset (List.mem_flatten.2 ⟨x, hx, hc⟩)⟩) he
    exact fun t ht x hx => hrem.subset (hr.2 t ht x hx)

theorem loserChoice_tbs_mem (init : Profile) (ω : STVOracle) (rnd : Nat) (lowest : List Cand) (c : Cand)
    (tbs : List (List Cand × Ranking)) (hl : lowest.Nodup) (hi : init.cands.Nodup)
    (hsub : ∀ x ∈ lowest, x ∈ init.cands) (h : loserChoice init ω rnd lowest = .ok (c, tbs)) :
    ∀ t ∈ tbs, ∀ x ∈ t.1 ++ t.2.flatten, x ∈ lowest := by
  unfold loserChoice at h
  split at h
  · obtain ⟨t, ht, h⟩ := Outcome.bind_eq_ok.mp h
    have hspec := tiebreakSet_spec (ω.pri rnd) lowest (some init) .firstPlace t hl
      (fun p hp => by cases hp; exact ⟨hi, hsub⟩) ht
    split at h
    · cases h
      intro t' ht' x hx
      rw [List.mem_singleton.mp ht'] at hx
      exact (List.mem_append.mp hx).elim id fun h => hspec.1.subset h
    · cases h
  · split at h
    · cases h; nofun
    · cases h

theorem stvStep_mentions (cfg : STVCfg) (init : Profile) (q : Int) (ω : STVOracle) (rnd : Nat)
    (S S' : CState) (prev r : RoundState) (hi : init.cands.Nodup) (hI : ReInv init.cands S prev)
    (h : stvStep cfg init q ω rnd S prev = .ok (S', r)) : ∀ x ∈ stateCands r, x ∈ init.cands := by
  have hI' := reInv_step init.cands cfg init q ω rnd S S' prev r hI h
  -- what the round newly records - the elected, the eliminated, the tiebreaks - was hopeful at its start
  suffices hr : (∀ x ∈ r.elected.flatten, x ∈ S.hopeful) ∧ (∀ x ∈ r.eliminated.flatten, x ∈ S.hopeful) ∧
      ∀ t ∈ r.tiebreaks, ∀ x ∈ t.1 ++ t.2.flatten, x ∈ S.hopeful from
    (forall_stateCands r _).mpr ⟨fun x hx => hI'.sub x (hI'.perm.subset hx), fun x hx => hI.sub x (hr.1 x hx),
      fun x hx => hI.sub x (hr.2.1 x hx), fun t ht x hx => hI.sub x (hr.2.2 t ht x hx),
      fun x hx => hI'.sub x (hI'.keys ▸ hx)⟩
  rcases stvStep_eq_ok.1 h with ⟨g, tbs, bs', -, he, -, -, rfl⟩ | ⟨-, -, -, rfl⟩ |
    ⟨-, -, lowest, c, tbs, hl, hc, -, rfl⟩
  · exact ⟨(electChoice_spec cfg q ω rnd S prev g tbs hI.nodup hI.perm he).2, nofun,
      electChoice_tbs_mem cfg q ω rnd S prev g tbs hI.nodup hI.perm he⟩
  · exact ⟨fun x hx => hI.perm.subset hx, nofun, nofun⟩
  · have hlg := hI.groups lowest (List.mem_of_getLast? hl)
    have hlh : ∀ x ∈ lowest, x ∈ S.hopeful := fun x hx =>
      hI.perm.subset (List.mem_flatten.mpr ⟨lowest, List.mem_of_getLast? hl, hx⟩)
    refine ⟨nofun, fun x hx => ?_, fun t ht x hx =>
      hlh x (loserChoice_tbs_mem init ω rnd lowest c tbs hlg.1 hi hlg.2 hc t ht x hx)⟩
    rw [List.flatten_singleton, List.mem_singleton] at hx
    exact hx ▸ hlh c (loserChoice_mem init ω rnd lowest c tbs hlg.1 hi hlg.2 hc)

theorem stvLoop_mentions (cfg : STVCfg) (init : Profile) (q : Int) (ω : STVOracle) (hi : init.cands.Nodup)
    (fuel : Nat) (S : CState) (prev : RoundState) (hI : ReInv init.cands S prev)
    (acc tr : List (RoundState × CState)) (hacc : ∀ y ∈ acc, ∀ x ∈ stateCands y.1, x ∈ init.cands)
    (h : stvLoop cfg init q ω fuel S prev acc = .ok tr) : ∀ y ∈ tr, ∀ x ∈ stateCands y.1, x ∈ init.cands := by
  obtain ⟨_, _, accf, rfl, -, -, hf⟩ := stvLoop_induct
    (fun S prev acc => ReInv init.cands S prev ∧ ∀ y ∈ acc, ∀ x ∈ stateCands y.1, x ∈ init.cands)
    (fun S prev acc S' r ⟨hI, hacc⟩ _ hst =>
      ⟨reInv_step init.cands cfg init q ω _ S S' prev r hI hst,
        List.forall_mem_cons.mpr ⟨stvStep_mentions cfg init q ω _ S S' prev r hi hI hst, hacc⟩⟩)
    ⟨hI, hacc⟩ h
  exact fun y hy => hf y (List.mem_reverse.mp hy)

theorem stvRun_mentions (cfg : STVCfg) (p : Profile) (ω : STVOracle) (quotaOk : Bool) (hN : p.cands.Nodup)
    (res : STVResult) (h : stvRun cfg p ω quotaOk = .ok res) : ∀ s ∈ res.states, ∀ x ∈ stateCands s, x ∈ p.cands := by
  obtain ⟨-, -, -, sc0, tr, hsc, hl, rfl⟩ := stvRun_eq_ok.1 h
  have hk0 : sc0.map (·.1) = p.cands := scoreFromRankings_keys p _ sc0 hsc
  have h0 : ∀ x ∈ stateCands (initialState p.cands (some sc0)), x ∈ p.cands :=
    (forall_stateCands _ _).mpr ⟨fun x hx => hk0 ▸ (scoreToRanking_perm sc0).subset hx, nofun, nofun, nofun,
      fun x hx => hk0 ▸ hx⟩
  exact List.forall_mem_map.mpr (stvLoop_mentions cfg p _ ω hN _ _ _ (ReInv.init hN (fun _ hx => hx) hk0)
    [(initialState p.cands (some sc0), stvInitState p)] tr (List.forall_mem_singleton.mpr h0) hl)

end VK
