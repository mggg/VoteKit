/-
  Equations for `applyTransfers` and `stvLoop`, and what a call of `electChoice` (by mode),
  `stvStep`, `stvLoop`, `stvRun` that returned `.ok` went through. No Mathlib import.
-/
import VK.Model.STV
import VK.Lemmas.Outcome
namespace VK

theorem applyTransfers_cons (cfg : STVCfg) (hop : List Cand) (q : Int) (s : Cand → List (List Cand × Nat))
    (w : Cand) (ws : List Cand) (bs : List PBallot) :
    applyTransfers cfg hop q s (w :: ws) bs =
      applyTransfer cfg hop q (s w) bs w >>= fun bs' => applyTransfers cfg hop q s ws bs' := rfl

theorem applyTransfers_cons_ok {cfg : STVCfg} {hop : List Cand} {q : Int} {s : Cand → List (List Cand × Nat)}
    {w : Cand} {ws : List Cand} {bs bs' : List PBallot} :
    applyTransfers cfg hop q s (w :: ws) bs = .ok bs' ↔
      ∃ bs1, applyTransfer cfg hop q (s w) bs w = .ok bs1 ∧ applyTransfers cfg hop q s ws bs1 = .ok bs' :=
  Outcome.bind_eq_ok

theorem stvLoop_done (cfg : STVCfg) (init : Profile) (q : Int) (ω : STVOracle) (fuel : Nat) (S : CState)
    (prev : RoundState) (acc : List (RoundState × CState)) (h : S.nElected = cfg.m) :
    stvLoop cfg init q ω fuel S prev acc = .ok acc.reverse := by
  cases fuel <;> simp only [stvLoop, if_pos h]

theorem stvLoop_succ (cfg : STVCfg) (init : Profile) (q : Int) (ω : STVOracle) (fuel : Nat) (S : CState)
    (prev : RoundState) (acc : List (RoundState × CState)) (h : S.nElected ≠ cfg.m) :
    stvLoop cfg init q ω (fuel + 1) S prev acc =
      stvStep cfg init q ω (prev.round + 1) S prev >>= fun x =>
        stvLoop cfg init q ω fuel x.1 x.2 ((x.2, x.1) :: acc) := by
  simp only [stvLoop, if_neg h]

theorem stvLoop_ok {cfg : STVCfg} {init : Profile} {q : Int} {ω : STVOracle} {fuel : Nat} {S : CState}
    {prev : RoundState} {acc tr : List (RoundState × CState)} (h : stvLoop cfg init q ω fuel S prev acc = .ok tr) :
    (S.nElected = cfg.m ∧ tr = acc.reverse) ∨
    (S.nElected ≠ cfg.m ∧ ∃ n S' r, fuel = n + 1 ∧ stvStep cfg init q ω (prev.round + 1) S prev = .ok (S', r) ∧
      stvLoop cfg init q ω n S' r ((r, S') :: acc) = .ok tr) := by
  by_cases hm : S.nElected = cfg.m
  · rw [stvLoop_done _ _ _ _ _ _ _ _ hm] at h
    exact .inl ⟨hm, (Outcome.ok.inj h).symm⟩
  · cases fuel with
    | zero => simp only [stvLoop, if_neg hm] at h; cases h
    | succ n =>
      rw [stvLoop_succ _ _ _ _ _ _ _ _ hm] at h
      obtain ⟨⟨S', r⟩, h1, h2⟩ := Outcome.bind_eq_ok.1 h
      exact .inr ⟨hm, n, S', r, rfl, h1, h2⟩

theorem electChoice_simultaneous {cfg : STVCfg} {q : Int} {ω : STVOracle} {rnd : Nat} {S : CState}
    {prev : RoundState} {g : Ranking} {tbs : List (List Cand × Ranking)} (hsim : cfg.simultaneous = true)
    (h : electChoice cfg q ω rnd S prev = .ok (g, tbs)) :
    g = prev.remaining.takeWhile (fun g =>
      match g with
      | [] => false
      | c :: _ => decide ((q : Rat) ≤ lookupScore prev.scores c)) := by
  unfold electChoice at h
  rw [if_pos hsim] at h
  exact (Prod.mk.inj (Outcome.ok.inj h)).1.symm

theorem electChoice_onebyone {cfg : STVCfg} {q : Int} {ω : STVOracle} {rnd : Nat} {S : CState}
    {prev : RoundState} {g : Ranking} {tbs : List (List Cand × Ranking)} (hsim : cfg.simultaneous = false)
    (h : electChoice cfg q ω rnd S prev = .ok (g, tbs)) :
    ∃ r, electFromRanking (ω.pri rnd) prev.remaining 1 (some (currentProfile S)) cfg.tiebreak = .ok r ∧
      g = r.elected := by
  unfold electChoice at h
  rw [if_neg (hsim ▸ Bool.false_ne_true)] at h
  obtain ⟨r, he, h⟩ := Outcome.bind_eq_ok.1 h
  exact ⟨r, he, (Prod.mk.inj (Outcome.ok.inj h)).1.symm⟩

/-- The three kinds of successful step: an election round (somebody at the threshold), the final round
(the remaining candidates fill the remaining seats), an elimination round; `S'` and `r` are written out in
full, so that an `rfl` pattern substitutes them. -/
theorem stvStep_eq_ok {cfg : STVCfg} {init : Profile} {q : Int} {ω : STVOracle} {rnd : Nat}
    {S S' : CState} {prev r : RoundState} : stvStep cfg init q ω rnd S prev = .ok (S', r) ↔
    (∃ g tbs bs', (prev.scores.filter (fun cs => decide ((q : Rat) ≤ cs.2))).isEmpty = false ∧
        electChoice cfg q ω rnd S prev = .ok (g, tbs) ∧
        applyTransfers cfg S.hopeful q (ω.sample rnd) g.flatten S.bs = .ok bs' ∧
        S' = { bs := bs', hopeful := S.hopeful.filter (fun c => !g.flatten.contains c),
               nElected := S.nElected + g.flatten.length } ∧
        r = { round := rnd, remaining := scoreToRanking (tallies S'.bs S'.hopeful), elected := g,
              eliminated := [], tiebreaks := tbs, scores := tallies S'.bs S'.hopeful }) ∨
    ((prev.scores.filter (fun cs => decide ((q : Rat) ≤ cs.2))).isEmpty = true ∧
        (S.nElected ≤ cfg.m ∧ S.hopeful.length = cfg.m - S.nElected) ∧
        S' = { bs := S.bs.map (fun b => (b.1, 0)), hopeful := [],
               nElected := S.nElected + S.hopeful.length } ∧
        r = { round := rnd, remaining := [], elected := prev.remaining, eliminated := [],
              tiebreaks := [], scores := [] }) ∨
    ((prev.scores.filter (fun cs => decide ((q : Rat) ≤ cs.2))).isEmpty = true ∧
        ¬ (S.nElected ≤ cfg.m ∧ S.hopeful.length = cfg.m - S.nElected) ∧
        ∃ lowest c tbs, prev.remaining.getLast? = some lowest ∧
        loserChoice init ω rnd lowest = .ok (c, tbs) ∧
        S' = { bs := S.bs, hopeful := S.hopeful.filter (fun x => x != c), nElected := S.nElected } ∧
        r = { round := rnd, remaining := scoreToRanking (tallies S'.bs S'.hopeful), elected := [],
              eliminated := [[c]], tiebreaks := tbs, scores := tallies S'.bs S'.hopeful }) := by
  refine ⟨fun h => ?_, ?_⟩
  · unfold stvStep at h
    simp only at h
    split at h
    · rename_i hab
      obtain ⟨⟨g, tbs⟩, he, h⟩ := Outcome.bind_eq_ok.1 h
      obtain ⟨bs', ha, h⟩ := Outcome.bind_eq_ok.1 h
      cases h
      exact Or.inl ⟨g, tbs, bs', (Bool.not_eq_true' _).mp hab, he, ha, rfl, rfl⟩
    · rename_i hab
      rw [Bool.not_eq_true', Bool.not_eq_false] at hab
      split at h
      · rename_i hfill
        cases h
        rw [Bool.and_eq_true, decide_eq_true_eq, decide_eq_true_eq] at hfill
        exact Or.inr (Or.inl ⟨hab, hfill, rfl, rfl⟩)
      · rename_i hfill
        rw [Bool.and_eq_true, decide_eq_true_eq, decide_eq_true_eq] at hfill
        split at h
        · cases h
        · rename_i lowest hlast
          obtain ⟨⟨c, tbs⟩, hlc, h⟩ := Outcome.bind_eq_ok.1 h
          cases h
          exact Or.inr (Or.inr ⟨hab, hfill, lowest, c, tbs, hlast, hlc, rfl, rfl⟩)
  · rintro (⟨g, tbs, bs', hab, he, ha, rfl, rfl⟩ | ⟨hab, hfill, rfl, rfl⟩ |
      ⟨hab, hnfill, lowest, c, tbs, hlast, hlc, rfl, rfl⟩)
    · simp only [stvStep, hab, Bool.not_false, if_true, he, Outcome.bind_ok, ha]
      rfl
    · simp only [stvStep, hab, Bool.not_true, Bool.false_eq_true, if_false, hfill, decide_true, Bool.and_self, if_true]
      rfl
    · have hnf : (decide (S.nElected ≤ cfg.m) && decide (S.hopeful.length = cfg.m - S.nElected)) = false := by
        simpa using hnfill
      simp only [stvStep, hab, Bool.not_true, Bool.false_eq_true, if_false, hnf, hlast, hlc, Outcome.bind_ok]
      rfl

/-- `stvStep_eq_ok` with `S'` and `r` left as variables and the fields a proof reads given as equations, for
proofs that go on speaking of `S'` and `r`. -/
theorem stvStep_cases (cfg : STVCfg) (init : Profile) (q : Int) (ω : STVOracle) (rnd : Nat)
    (S S' : CState) (prev r : RoundState) (h : stvStep cfg init q ω rnd S prev = .ok (S', r)) :
    (∃ g tbs bs', (prev.scores.filter (fun cs => decide ((q : Rat) ≤ cs.2))).isEmpty = false ∧
        electChoice cfg q ω rnd S prev = .ok (g, tbs) ∧
        applyTransfers cfg S.hopeful q (ω.sample rnd) g.flatten S.bs = .ok bs' ∧
        S'.bs = bs' ∧ S'.hopeful = S.hopeful.filter (fun c => !g.flatten.contains c) ∧
        S'.nElected = S.nElected + g.flatten.length ∧
        r.elected = g ∧ r.eliminated = [] ∧ r.scores = tallies S'.bs S'.hopeful) ∨
    ((prev.scores.filter (fun cs => decide ((q : Rat) ≤ cs.2))).isEmpty = true ∧
        S'.hopeful = [] ∧ S'.bs = S.bs.map (fun b => (b.1, 0)) ∧ S'.nElected = S.nElected + S.hopeful.length ∧
        S.hopeful.length = cfg.m - S.nElected ∧ S.nElected ≤ cfg.m ∧
        r.elected = prev.remaining ∧ r.eliminated = [] ∧ r.remaining = []) ∨
    ((prev.scores.filter (fun cs => decide ((q : Rat) ≤ cs.2))).isEmpty = true ∧
        ∃ lowest c tbs, prev.remaining.getLast? = some lowest ∧ loserChoice init ω rnd lowest = .ok (c, tbs) ∧
        S'.bs = S.bs ∧ S'.hopeful = S.hopeful.filter (fun x => x != c) ∧ S'.nElected = S.nElected ∧
        r.elected = [] ∧ r.eliminated = [[c]]) := by
  rcases stvStep_eq_ok.1 h with ⟨g, tbs, bs', hab, he, ha, rfl, rfl⟩ | ⟨hab, hfill, rfl, rfl⟩ |
    ⟨hab, _, lowest, c, tbs, hlast, hlc, rfl, rfl⟩
  · exact Or.inl ⟨g, tbs, bs', hab, he, ha, rfl, rfl, rfl, rfl, rfl, rfl⟩
  · exact Or.inr (Or.inl ⟨hab, rfl, rfl, rfl, hfill.2, hfill.1, rfl, rfl, rfl⟩)
  · exact Or.inr (Or.inr ⟨hab, lowest, c, tbs, hlast, hlc, rfl, rfl, rfl, rfl, rfl⟩)

theorem stvRun_eq_ok {cfg : STVCfg} {p : Profile} {ω : STVOracle} {qok : Bool} {res : STVResult} :
    stvRun cfg p ω qok = .ok res ↔
    stvValidProfile p = true ∧ ¬ (cfg.m = 0 ∨ cfg.m > p.cands.length) ∧ qok = true ∧
    ∃ sc0 tr, firstPlaceVotes p = .ok sc0 ∧
      stvLoop cfg p (threshold cfg.quota cfg.m p.total) ω (p.cands.length + 2) (stvInitState p)
        (initialState p.cands (some sc0)) [(initialState p.cands (some sc0), stvInitState p)] = .ok tr ∧
      res = { threshold := threshold cfg.quota cfg.m p.total, trace := tr } := by
  unfold stvRun
  simp only [Bool.not_eq_true', Bool.or_eq_true, decide_eq_true_eq, Outcome.ite_raised_eq_ok,
    Bool.not_eq_false]
  refine and_congr_right fun _ => and_congr_right fun _ => and_congr_right fun _ => ⟨fun h => ?_, ?_⟩
  · obtain ⟨sc0, hs, h⟩ := Outcome.bind_eq_ok.1 h
    obtain ⟨tr, ht, h⟩ := Outcome.bind_eq_ok.1 h
    exact ⟨sc0, tr, hs, ht, (Outcome.ok.inj h).symm⟩
  · rintro ⟨sc0, tr, hs, ht, rfl⟩
    rw [hs, Outcome.bind_ok, ht]
    rfl

end VK
