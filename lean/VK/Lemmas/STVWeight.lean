/-
  Weights in the STV count: `wsum`, the weight of a selection of ballots; the *active*
  weight (of the ballots that still rank a hopeful candidate: the total of the profile the code holds);
  what scaling a winner's pile (`scaleLed`, the fractional transfer) does to either.
-/
import VK.Model.STV
import VK.Lemmas.STVEqns
import VK.Lemmas.Sum
import Mathlib.Tactic.FieldSimp
import Mathlib.Tactic.Linarith
import Mathlib.Tactic.Ring

namespace VK

def wsum (p : PBallot → Bool) (bs : List PBallot) : Rat := rsum ((bs.filter p).map (·.2))

/-- a ballot is active when it still ranks a hopeful candidate -/
def isActive (hopeful : List Cand) (b : PBallot) : Bool := (topOf hopeful b.1).isSome

/-- total weight of the profile the code holds at this point of the count -/
def active (bs : List PBallot) (hopeful : List Cand) : Rat := wsum (isActive hopeful) bs

theorem wsum_nil (p : PBallot → Bool) : wsum p [] = 0 := rfl

theorem wsum_cons (p : PBallot → Bool) (b : PBallot) (bs : List PBallot) :
    wsum p (b :: bs) = (if p b then b.2 else 0) + wsum p bs := by
  unfold wsum
  by_cases h : p b <;> simp [h]

theorem wsum_nonneg (p : PBallot → Bool) (bs : List PBallot) (h : ∀ b ∈ bs, 0 ≤ b.2) : 0 ≤ wsum p bs := by
  refine rsum_nonneg _ fun x hx => ?_
  obtain ⟨b, hb, rfl⟩ := List.mem_map.1 hx
  exact h b (List.mem_filter.1 hb).1

theorem wsum_false (p : PBallot → Bool) (bs : List PBallot) (h : ∀ b ∈ bs, p b = false) : wsum p bs = 0 := by
  unfold wsum
  rw [List.filter_eq_nil_iff.2 (fun b hb => by rw [h b hb]; exact Bool.false_ne_true)]
  rfl

theorem wsum_split (p led : PBallot → Bool) (bs : List PBallot) :
    wsum p bs = wsum (fun b => p b && !led b) bs + wsum (fun b => p b && led b) bs := by
  unfold wsum
  rw [← rsum_filter_add_filter_not (bs.filter p) led (·.2), List.filter_filter, List.filter_filter, add_comm]
  simp only [Bool.and_comm]

theorem wsum_le_of_imp (p p' : PBallot → Bool) (bs : List PBallot) (hnn : ∀ b ∈ bs, 0 ≤ b.2)
    (himp : ∀ b ∈ bs, p b = true → p' b = true) : wsum p bs ≤ wsum p' bs := by
  induction bs with
  | nil => exact le_refl _
  | cons b rest ih =>
    rw [wsum_cons, wsum_cons]
    refine add_le_add ?_
      (ih (fun x hx => hnn x (List.mem_cons_of_mem _ hx)) fun x hx => himp x (List.mem_cons_of_mem _ hx))
    by_cases hp : p b = true
    · rw [if_pos hp, if_pos (himp b List.mem_cons_self hp)]
    · rw [if_neg hp]
      split
      · exact hnn b List.mem_cons_self
      · exact le_rfl

theorem tally_eq_wsum (bs : List PBallot) (hopeful : List Cand) (c : Cand) :
    tally bs hopeful c = wsum (fun b => decide (topOf hopeful b.1 = some c)) bs := rfl

/-- Scaling by `f` the weights of the ballots that satisfy `s`, seen through a selector `p` that reads
only the ranking: the selected weight changes by `f - 1` times the weight selected by both. -/
theorem wsum_map_scale (p : PBallot → Bool) (s : PBallot → Prop) [DecidablePred s] (f : Rat)
    (bs : List PBallot) (hp : ∀ b w, p (b.1, w) = p b) :
    wsum p (bs.map (fun b => if s b then (b.1, b.2 * f) else b)) =
      wsum p bs + (f - 1) * wsum (fun b => p b && decide (s b)) bs := by
  induction bs with
  | nil => rw [List.map_nil, wsum_nil, wsum_nil, mul_zero, add_zero]
  | cons b rest ih =>
    simp only [List.map_cons, wsum_cons, ih]
    -- the head changes the sum only if it is scaled and `p` selects it: then by `b.2 * f - b.2`
    by_cases hs : s b
    · by_cases hb : p b
      · simp only [hs, hb, hp, reduceIte, decide_true, Bool.and_self]
        ring
      · simp only [hs, hb, hp, reduceIte, Bool.false_eq_true, zero_add, decide_true, Bool.and_true]
    · by_cases hb : p b
      · simp only [hs, hb, reduceIte, decide_false, Bool.and_false, Bool.false_eq_true, zero_add]
        ring
      · simp only [hs, hb, reduceIte, Bool.false_eq_true, zero_add, decide_false, Bool.and_self]

/-- the fractional surplus transfer of winner `w` as a map on the pointwise state -/
def scaleLed (hop : List Cand) (w : Cand) (f : Rat) (bs : List PBallot) : List PBallot :=
  bs.map (fun b => if topOf hop b.1 = some w then (b.1, b.2 * f) else b)

theorem wsum_scaleLed (pr : List Cand → Bool) (hop : List Cand) (w : Cand) (f : Rat) (bs : List PBallot) :
    wsum (fun b => pr b.1) (scaleLed hop w f bs) =
      wsum (fun b => pr b.1) bs + (f - 1) * wsum (fun b => pr b.1 && decide (topOf hop b.1 = some w)) bs :=
  wsum_map_scale (fun b => pr b.1) (fun b => topOf hop b.1 = some w) f bs fun _ _ => rfl

theorem wsum_scaleLed_other (pr : List Cand → Bool) (hop : List Cand) (w w' : Cand) (f : Rat) (bs : List PBallot)
    (hne : w' ≠ w) :
    wsum (fun b => pr b.1 && decide (topOf hop b.1 = some w')) (scaleLed hop w f bs) =
      wsum (fun b => pr b.1 && decide (topOf hop b.1 = some w')) bs := by
  rw [wsum_scaleLed (fun r => pr r && decide (topOf hop r = some w')), add_eq_left]
  refine mul_eq_zero_of_right _ (wsum_false _ bs fun b _ => ?_)
  by_cases h : topOf hop b.1 = some w'
  · simp only [h, Option.some.injEq, hne, decide_false, Bool.and_false]
  · simp only [h, decide_false, Bool.and_false, Bool.false_and]

theorem tally_scaleLed_other (hop : List Cand) (w w' : Cand) (f : Rat) (bs : List PBallot) (hne : w' ≠ w) :
    tally (scaleLed hop w f bs) hop w' = tally bs hop w' :=
  wsum_scaleLed_other (fun _ => true) hop w w' f bs hne

theorem scaleLed_nonneg (hop : List Cand) (w : Cand) (f : Rat) (bs : List PBallot) (hf : 0 ≤ f)
    (hnn : ∀ b ∈ bs, 0 ≤ b.2) : ∀ b ∈ scaleLed hop w f bs, 0 ≤ b.2 := by
  intro b hb
  obtain ⟨b0, hb0, rfl⟩ := List.mem_map.1 hb
  split
  · exact mul_nonneg (hnn b0 hb0) hf
  · exact hnn b0 hb0

theorem active_scaleLed (bs : List PBallot) (hopeful : List Cand) (w : Cand) (f : Rat) :
    active (scaleLed hopeful w f bs) hopeful = active bs hopeful + (f - 1) * tally bs hopeful w := by
  rw [active, scaleLed, wsum_map_scale (isActive hopeful) _ f bs fun _ _ => rfl, tally_eq_wsum]
  congr 3
  funext b
  by_cases h : topOf hopeful b.1 = some w <;> simp [isActive, h]

theorem tally_scale_led (bs : List PBallot) (hopeful : List Cand) (w : Cand) (f : Rat) :
    tally (bs.map (fun b => if topOf hopeful b.1 = some w then (b.1, b.2 * f) else b)) hopeful w =
      f * tally bs hopeful w := by
  rw [tally_eq_wsum, tally_eq_wsum, wsum_map_scale _ _ f bs fun _ _ => rfl]
  simp only [Bool.and_self]
  ring

theorem applyTransfer_of_full {cfg : STVCfg} (hf : cfg.transfer = .full) (hopeful : List Cand) (q : Int)
    (sample : List (List Cand × Nat)) (bs : List PBallot) (w : Cand) :
    applyTransfer cfg hopeful q sample bs w = .ok bs := by
  simp only [applyTransfer, hf]

theorem applyTransfer_of_fractional {cfg : STVCfg} (hf : cfg.transfer = .fractional) (hopeful : List Cand)
    (q : Int) (sample : List (List Cand × Nat)) (bs : List PBallot) (w : Cand) :
    applyTransfer cfg hopeful q sample bs w =
      if tally bs hopeful w = 0 then .raised .zeroDiv
      else .ok (scaleLed hopeful w ((tally bs hopeful w - q) / tally bs hopeful w) bs) := by
  simp only [applyTransfer, hf, scaleLed]

theorem applyTransfer_fractional_eq (cfg : STVCfg) (hop : List Cand) (q : Int) (sample : List (List Cand × Nat))
    (bs bs' : List PBallot) (w : Cand) (hf : cfg.transfer = .fractional)
    (h : applyTransfer cfg hop q sample bs w = .ok bs') :
    tally bs hop w ≠ 0 ∧ bs' = scaleLed hop w ((tally bs hop w - q) / tally bs hop w) bs := by
  rw [applyTransfer_of_fractional hf, Outcome.ite_raised_eq_ok] at h
  exact ⟨h.1, (Outcome.ok.inj h.2).symm⟩

/-- One fractional transfer consumes exactly the threshold: the winner's `t` votes become `t − q`, every other
ballot is untouched. -/
theorem applyTransfer_fractional_active (cfg : STVCfg) (hopeful : List Cand) (q : Int)
    (sample : List (List Cand × Nat)) (bs bs' : List PBallot) (w : Cand) (hf : cfg.transfer = .fractional)
    (h : applyTransfer cfg hopeful q sample bs w = .ok bs') :
    active bs' hopeful = active bs hopeful - (q : Rat) := by
  obtain ⟨ht, rfl⟩ := applyTransfer_fractional_eq cfg hopeful q sample bs bs' w hf h
  rw [active_scaleLed]
  field_simp
  ring

/-- the full-weight transfer of SequentialRCV leaves every weight as it is -/
theorem applyTransfer_full (cfg : STVCfg) (hopeful : List Cand) (q : Int)
    (sample : List (List Cand × Nat)) (bs bs' : List PBallot) (w : Cand) (hf : cfg.transfer = .full)
    (h : applyTransfer cfg hopeful q sample bs w = .ok bs') : bs' = bs := by
  rw [applyTransfer_of_full hf] at h
  exact (Outcome.ok.inj h).symm

/-- All surplus transfers of a round (fractional rule): the active weight drops by the threshold once per
elected candidate. -/
theorem applyTransfers_fractional_active (cfg : STVCfg) (hopeful : List Cand) (q : Int)
    (sample : Cand → List (List Cand × Nat)) (ws : List Cand) (bs bs' : List PBallot)
    (hf : cfg.transfer = .fractional) (h : applyTransfers cfg hopeful q sample ws bs = .ok bs') :
    active bs' hopeful = active bs hopeful - (q : Rat) * (ws.length : Rat) := by
  induction ws generalizing bs with
  | nil => cases h; rw [List.length_nil, Nat.cast_zero, mul_zero, sub_zero]
  | cons w rest ih =>
    obtain ⟨bs1, h1, h⟩ := applyTransfers_cons_ok.1 h
    rw [ih bs1 h, applyTransfer_fractional_active cfg hopeful q _ bs bs1 w hf h1, List.length_cons]
    push_cast; ring

theorem topOf_cons (hop : List Cand) (x : Cand) (xs : List Cand) :
    topOf hop (x :: xs) = if hop.contains x then some x else topOf hop xs := by
  rw [topOf, List.find?_cons]; cases hop.contains x <;> rfl

theorem topOf_mem_hopeful (hop r : List Cand) (c : Cand) (h : topOf hop r = some c) : c ∈ hop := by
  unfold topOf at h
  simpa using List.find?_some h

theorem topOf_some_of_subset (hop hop' : List Cand) (r : List Cand) (hsub : ∀ c ∈ hop', c ∈ hop)
    (h : (topOf hop' r).isSome) : (topOf hop r).isSome := by
  unfold topOf at h ⊢
  rw [List.find?_isSome] at h ⊢
  obtain ⟨x, hx, hc⟩ := h
  exact ⟨x, hx, List.contains_iff_mem.2 (hsub x (List.contains_iff_mem.1 hc))⟩

/-- weight of the ballots that were active before candidates left and rank nobody hopeful now -/
def exhausted (bs : List PBallot) (hop hop' : List Cand) : Rat :=
  wsum (fun b => isActive hop b && !isActive hop' b) bs

theorem active_shrink (bs : List PBallot) (hop hop' : List Cand) (hsub : ∀ c ∈ hop', c ∈ hop) :
    active bs hop = active bs hop' + exhausted bs hop hop' := by
  rw [active, wsum_split (isActive hop) (isActive hop'), add_comm, exhausted, active]
  congr 2
  -- a ballot active for the smaller set is active for the larger
  funext b
  cases h : isActive hop' b
  · exact Bool.and_false _
  · exact (Bool.and_true _).trans (topOf_some_of_subset hop hop' b.1 hsub h)

theorem active_anti (bs : List PBallot) (hop hop' : List Cand) (hsub : ∀ c ∈ hop', c ∈ hop)
    (hnn : ∀ b ∈ bs, 0 ≤ b.2) : active bs hop' ≤ active bs hop := by
  rw [active_shrink bs hop hop' hsub]
  exact le_add_of_nonneg_right (wsum_nonneg _ _ hnn)

theorem active_le_total (bs : List Ballot) (hop : List Cand) (hw : ∀ b ∈ bs, 0 ≤ b.weight) :
    active (bs.map (fun b => (b.ranking.flatten, b.weight))) hop ≤ totalWeight bs := by
  refine le_trans (wsum_le_of_imp _ (fun _ => true) _ (fun b hb => ?_) fun _ _ _ => rfl) (le_of_eq ?_)
  · obtain ⟨b0, hb0, rfl⟩ := List.mem_map.1 hb
    exact hw b0 hb0
  · unfold wsum totalWeight
    rw [List.filter_true, List.map_map]; rfl

end VK
