/-
  One step of the STV count read on the count state: `Linked` (a round's recorded tallies are
  those of the count state), whom the quota test elects in either mode, what the fractional transfers of a
  round take from a set of ballots (the estimate behind C07), and progress (`stvStep_decreases`, for C01).
-/
import VK.Lemmas.STVEqns
import VK.Lemmas.STVRun
import VK.Lemmas.STVWeight
import Mathlib.Algebra.Order.Field.Basic
import Mathlib.Algebra.Order.Field.Rat

namespace VK

/-- the recorded tallies and candidate order of a round are those of the count state -/
def Linked (S : CState) (prev : RoundState) : Prop :=
  prev.scores = tallies S.bs S.hopeful ∧ prev.remaining = scoreToRanking prev.scores

theorem Linked.init (p : Profile) :
    Linked (stvInitState p) (initialState p.cands (some (tallies (stvInitState p).bs p.cands))) := ⟨rfl, rfl⟩

theorem stvStep_linked (cfg : STVCfg) (init : Profile) (q : Int) (ω : STVOracle) (rnd : Nat)
    (S S' : CState) (prev r : RoundState) (h : stvStep cfg init q ω rnd S prev = .ok (S', r)) :
    Linked S' r := by
  rcases stvStep_eq_ok.1 h with ⟨_, _, _, _, _, _, rfl, rfl⟩ | ⟨_, _, rfl, rfl⟩ |
    ⟨_, _, _, _, _, _, _, rfl, rfl⟩ <;> exact ⟨rfl, rfl⟩

/-- the quota test of `electChoice` looks at the head of a group; all of a group have its score -/
theorem group_test (sc : List (Cand × Rat)) (q : Rat) (v : Rat) (hk : (sc.map (·.1)).Nodup)
    (hv : v ∈ sc.map (·.2)) :
    (match groupOf sc v with
      | [] => false
      | c :: _ => decide (q ≤ lookupScore sc c)) = decide (q ≤ v) := by
  obtain ⟨cs, hcs, rfl⟩ := List.mem_map.1 hv
  cases hg : groupOf sc cs.2 with
  | nil => exact absurd (mem_groupOf.2 hcs) (hg ▸ List.not_mem_nil)
  | cons c rest =>
    have hc : (c, cs.2) ∈ sc := mem_groupOf.1 (hg ▸ List.mem_cons_self)
    simp only [lookupScore_of_mem hk hc]

/-- a test that can only switch off along the list keeps every element that passes it -/
theorem mem_takeWhile_of_pairwise {α} {p : α → Bool} {l : List α}
    (h : l.Pairwise (fun a b => p b = true → p a = true)) {x : α} (hx : x ∈ l) (hp : p x = true) :
    x ∈ l.takeWhile p := by
  induction l with
  | nil => cases hx
  | cons y ys ih =>
    rw [List.pairwise_cons] at h
    rcases List.mem_cons.1 hx with rfl | hx
    · rw [List.takeWhile_cons_of_pos hp]; exact List.mem_cons_self
    · rw [List.takeWhile_cons_of_pos (h.1 x hx hp)]; exact List.mem_cons_of_mem _ (ih h.2 hx)

theorem above_iff (S : CState) (prev : RoundState) (q : Int) (hl : Linked S prev) :
    (prev.scores.filter (fun cs => decide ((q : Rat) ≤ cs.2))).isEmpty = false ↔
      ∃ c ∈ S.hopeful, (q : Rat) ≤ tally S.bs S.hopeful c := by
  rw [hl.1, Bool.eq_false_iff, Ne, List.isEmpty_iff, List.filter_eq_nil_iff]
  simp only [decide_eq_true_eq, not_forall, not_not]
  constructor
  · rintro ⟨⟨c, v⟩, hm, hq⟩
    obtain ⟨hc, rfl⟩ := mem_tallies.1 hm
    exact ⟨c, hc, hq⟩
  · rintro ⟨c, hc, hq⟩
    exact ⟨(c, _), mem_tallies.2 ⟨hc, rfl⟩, hq⟩

/-- C02, simultaneous mode: the quota test elects exactly the hopeful candidates whose tally is at or above
the threshold. -/
theorem simultaneous_winners_exact (S : CState) (prev : RoundState) (q : Int) (hl : Linked S prev)
    (hn : S.hopeful.Nodup) (c : Cand) :
    c ∈ (prev.remaining.takeWhile (fun g =>
      match g with
      | [] => false
      | c :: _ => decide ((q : Rat) ≤ lookupScore prev.scores c))).flatten ↔
    (c ∈ S.hopeful ∧ (q : Rat) ≤ tally S.bs S.hopeful c) := by
  have hk : (prev.scores.map (·.1)).Nodup := by rw [hl.1, tallies_keys]; exact hn
  have htest := fun v hv => group_test prev.scores q v hk ((mem_distinctDesc _ _).1 hv)
  rw [hl.2, scoreToRanking_eq]
  constructor
  · intro h
    obtain ⟨g, hg, hcg⟩ := List.mem_flatten.1 h
    obtain ⟨v, hv, rfl⟩ := List.mem_map.1 ((List.takeWhile_sublist _).subset hg)
    have hq := List.mem_takeWhile_imp hg
    rw [htest v hv, decide_eq_true_eq] at hq
    obtain ⟨hc, rfl⟩ := mem_tallies.1 (hl.1 ▸ mem_groupOf.1 hcg)
    exact ⟨hc, hq⟩
  · rintro ⟨hc, hq⟩
    have hpair : (c, tally S.bs S.hopeful c) ∈ prev.scores := hl.1 ▸ mem_tallies.2 ⟨hc, rfl⟩
    have hv := (mem_distinctDesc _ _).2 (List.mem_map_of_mem (f := (·.2)) hpair)
    refine List.mem_flatten.2 ⟨_, mem_takeWhile_of_pairwise ?_ (List.mem_map_of_mem hv) ?_,
      mem_groupOf.2 hpair⟩
    · -- scores descend along the ranking, so the test can only switch off
      rw [List.pairwise_map]
      refine (distinctDesc_sorted _).imp_of_mem fun {u v} hu hv huv => ?_
      rw [htest u hu, htest v hv, decide_eq_true_eq, decide_eq_true_eq]
      exact fun h => le_trans h (le_of_lt huv)
    · rw [htest _ hv, decide_eq_true_eq]; exact hq

/-- whoever fills one seat from a ranking of non-empty groups comes from its first group -/
theorem elect_one_from_first (pri : List Cand) (ranking : Ranking) (prof : Option Profile) (tb : Option TB)
    (r : ElectResult) (hne : ∀ g ∈ ranking, g ≠ []) (hnd : ∀ g ∈ ranking, g.Nodup)
    (hsub : ∀ p, prof = some p → p.cands.Nodup ∧ ∀ g ∈ ranking, ∀ c ∈ g, c ∈ p.cands)
    (h : electFromRanking pri ranking 1 prof tb = .ok r) :
    ∃ g1 rest, ranking = g1 :: rest ∧ ∀ w ∈ r.elected.flatten, w ∈ g1 := by
  obtain ⟨pre, post, rfl, hcase⟩ :=
    electLoop_spec pri prof tb 1 [] ranking r hnd hsub (electFromRanking_eq_ok.1 h).2.2
  -- a non-empty first group already fills the seat
  have hpre : ∀ g1 pre', pre = g1 :: pre' → pre.flatten.length ≤ 1 → pre'.flatten = [] := by
    rintro g1 pre' rfl hlen
    have := List.length_pos_iff.2 (hne g1 List.mem_cons_self)
    rw [List.flatten_cons, List.length_append] at hlen
    exact List.length_eq_zero_iff.1 (by omega)
  rcases hcase with ⟨_, h2, h3, _⟩ | ⟨g, post', broken, t, rfl, _, _, h4, _, _, h7, _, h9, _⟩
  · cases pre with
    | nil => cases h2
    | cons g1 pre' =>
      refine ⟨g1, pre' ++ post, rfl, fun w hw => ?_⟩
      rw [h3, List.reverse_nil, List.nil_append, List.flatten_cons,
        hpre g1 pre' rfl (le_of_eq h2), List.append_nil] at hw
      exact hw
  · cases pre with
    | nil =>
      refine ⟨g, post', rfl, fun w hw => h7.mem_iff.1 ?_⟩
      rw [h9, List.reverse_nil, List.nil_append, List.nil_append] at hw
      exact (List.take_sublist _ _).flatten.subset hw
    | cons g1 pre' =>
      have := List.length_pos_iff.2 (hne g1 List.mem_cons_self)
      rw [List.flatten_cons, List.length_append] at h4
      omega

theorem onebyone_winner_max (cfg : STVCfg) (q : Int) (ω : STVOracle) (rnd : Nat) (S : CState) (prev : RoundState)
    (g : Ranking) (tbs : List (List Cand × Ranking)) (hl : Linked S prev) (hn : S.hopeful.Nodup)
    (hsim : cfg.simultaneous = false)
    (h : electChoice cfg q ω rnd S prev = .ok (g, tbs)) :
    g.flatten.length = 1 ∧ ∀ w ∈ g.flatten, ∀ c ∈ S.hopeful, tally S.bs S.hopeful c ≤ tally S.bs S.hopeful w := by
  obtain ⟨r, he, rfl⟩ := electChoice_onebyone hsim h
  have hperm : prev.remaining.flatten.Perm S.hopeful := by
    rw [hl.2, hl.1]; exact remaining_of_tallies _ _
  have hnd : ∀ x ∈ prev.remaining, x.Nodup :=
    (List.nodup_flatten.1 (hperm.nodup_iff.2 hn)).1
  have hsub : ∀ p, some (currentProfile S) = some p →
      p.cands.Nodup ∧ ∀ x ∈ prev.remaining, ∀ c ∈ x, c ∈ p.cands := by
    rintro _ ⟨rfl⟩
    exact ⟨hn, fun x hx c hc => hperm.mem_iff.1 (List.mem_flatten.2 ⟨x, hx, hc⟩)⟩
  refine ⟨(electFromRanking_count _ _ _ _ _ r hnd hsub he).1, fun w hw c hc => ?_⟩
  obtain ⟨g1, rest, hrank, hfirst⟩ := elect_one_from_first _ _ _ _ r
    (by rw [hl.2]; exact scoreToRanking_groups_nonempty _) hnd hsub he
  obtain ⟨v1, hg1, hmax⟩ := first_group_max prev.scores g1 rest (hl.2 ▸ hrank)
  rw [hl.1] at hg1 hmax
  rw [(mem_tallies.1 (hg1 w (hfirst w hw))).2]
  exact hmax (c, _) (mem_tallies.2 ⟨hc, rfl⟩)

/-- C02, both modes: in a round in which some tally reaches the threshold, every candidate the round elects has
a tally at or above it. -/
theorem electChoice_ge (cfg : STVCfg) (q : Int) (ω : STVOracle) (rnd : Nat) (S : CState) (prev : RoundState)
    (g : Ranking) (tbs : List (List Cand × Ranking)) (hl : Linked S prev) (hn : S.hopeful.Nodup)
    (habove : (prev.scores.filter (fun cs => decide ((q : Rat) ≤ cs.2))).isEmpty = false)
    (h : electChoice cfg q ω rnd S prev = .ok (g, tbs)) :
    ∀ c ∈ g.flatten, (q : Rat) ≤ tally S.bs S.hopeful c := by
  intro c hc
  cases hsim : cfg.simultaneous with
  | true =>
    rw [electChoice_simultaneous hsim h] at hc
    exact ((simultaneous_winners_exact S prev q hl hn c).1 hc).2
  | false =>
    -- somebody reaches the threshold, so the candidate of maximal tally does
    obtain ⟨c0, hc0, hq0⟩ := (above_iff S prev q hl).1 habove
    exact le_trans hq0 ((onebyone_winner_max cfg q ω rnd S prev g tbs hl hn hsim h).2 c hc c0 hc0)

theorem electChoice_nonempty (cfg : STVCfg) (q : Int) (ω : STVOracle) (rnd : Nat) (S : CState) (prev : RoundState)
    (g : Ranking) (tbs : List (List Cand × Ranking)) (hl : Linked S prev) (hn : S.hopeful.Nodup)
    (habove : (prev.scores.filter (fun cs => decide ((q : Rat) ≤ cs.2))).isEmpty = false)
    (h : electChoice cfg q ω rnd S prev = .ok (g, tbs)) : 0 < g.flatten.length := by
  cases hsim : cfg.simultaneous with
  | true =>
    obtain ⟨c0, hc0⟩ := (above_iff S prev q hl).1 habove
    rw [electChoice_simultaneous hsim h]
    exact List.length_pos_of_mem ((simultaneous_winners_exact S prev q hl hn c0).2 hc0)
  | false => rw [(onebyone_winner_max cfg q ω rnd S prev g tbs hl hn hsim h).1]; exact Nat.one_pos

/-- A fractional transfer leaves a coalition at least its weight minus one quota: ballots of total weight
`w ≤ t` led by a winner with tally `t ≥ q` keep `w·(t-q)/t ≥ w - q`. -/
theorem C07_fractional_keeps_quota (w t q : Rat) (ht : 0 < t) (hw : w ≤ t) (hq : 0 ≤ q) :
    w - q ≤ w * ((t - q) / t) := by
  have h : w * ((t - q) / t) = w - q * (w / t) := by
    rw [sub_div, div_self ht.ne', mul_sub, mul_one, mul_div_assoc', mul_div_assoc', mul_comm]
  rw [h]
  exact sub_le_sub_left (mul_le_of_le_one_right hq ((div_le_one ht).2 hw)) w

/-- A coalition loses at most one threshold per elected member: after the fractional transfers of the winners
`ws`, the weight of the ballots selected by `pr` has dropped by at most `q` for each winner that leads some
selected ballot (`inS`); winners leading none of them take nothing (`hout`). -/
theorem applyTransfers_coalition (cfg : STVCfg) (hop : List Cand) (q : Int)
    (sample : Cand → List (List Cand × Nat)) (pr : List Cand → Bool) (inS : Cand → Bool)
    (hf : cfg.transfer = .fractional) (hq : 0 < q)
    (ws : List Cand) (bs bs' : List PBallot)
    (hnn : ∀ b ∈ bs, 0 ≤ b.2) (hws : ws.Nodup)
    (hge : ∀ w ∈ ws, (q : Rat) ≤ tally bs hop w)
    (hout : ∀ w ∈ ws, inS w = false → wsum (fun b => pr b.1 && decide (topOf hop b.1 = some w)) bs = 0)
    (h : applyTransfers cfg hop q sample ws bs = .ok bs') :
    (∀ b ∈ bs', 0 ≤ b.2) ∧
    wsum (fun b => pr b.1) bs - (q : Rat) * ((ws.filter inS).length : Rat) ≤ wsum (fun b => pr b.1) bs' := by
  have hqr : (0 : Rat) < (q : Rat) := Int.cast_pos.2 hq
  induction ws generalizing bs with
  | nil =>
    cases h
    exact ⟨hnn, by rw [List.filter_nil, List.length_nil, Nat.cast_zero, mul_zero, sub_zero]⟩
  | cons w rest ih =>
    obtain ⟨bs1, h1, h⟩ := applyTransfers_cons_ok.1 h
    obtain ⟨_, rfl⟩ := applyTransfer_fractional_eq cfg hop q _ bs bs1 w hf h1
    rw [List.nodup_cons] at hws
    have htq := hge w List.mem_cons_self
    have htpos := lt_of_lt_of_le hqr htq
    -- the other winners' piles, hence `hge` and `hout` for them, are untouched
    have hne : ∀ w' ∈ rest, w' ≠ w := fun w' hw' e => hws.1 (e ▸ hw')
    obtain ⟨hnn', hk'⟩ := ih (scaleLed hop w _ bs)
      (scaleLed_nonneg hop w _ bs (div_nonneg (sub_nonneg.2 htq) htpos.le) hnn) hws.2
      (fun w' hw' =>
        (hge w' (List.mem_cons_of_mem _ hw')).trans_eq (tally_scaleLed_other hop w w' _ bs (hne w' hw')).symm)
      (fun w' hw' hin =>
        (wsum_scaleLed_other pr hop w w' _ bs (hne w' hw')).trans (hout w' (List.mem_cons_of_mem _ hw') hin))
      h
    refine ⟨hnn', le_trans ?_ hk'⟩
    -- one transfer: the part `l` of the selected weight led by `w` becomes `l·(t-q)/t ≥ l - q`, or `l = 0`
    rw [wsum_scaleLed pr hop w _ bs]
    cases hin : inS w with
    | false =>
      rw [List.filter_cons_of_neg (by rw [hin]; exact Bool.false_ne_true), hout w List.mem_cons_self hin,
        mul_zero, add_zero]
    | true =>
      have hl : wsum (fun b => pr b.1 && decide (topOf hop b.1 = some w)) bs ≤ tally bs hop w :=
        wsum_le_of_imp _ _ bs hnn (fun b _ hb => (Bool.and_eq_true _ _ ▸ hb).2)
      have := C07_fractional_keeps_quota _ _ (q : Rat) htpos hl hqr.le
      rw [List.filter_cons_of_pos hin, List.length_cons, Nat.cast_succ]
      generalize (tally bs hop w - (q : Rat)) / tally bs hop w = f at this ⊢
      linarith only [this]

/-- the tallies of a duplicate-free set of hopeful candidates add up to the weight of the ballots
whose current top is one of them -/
theorem sum_tally_subset (bs : List PBallot) (hop H : List Cand) (hn : H.Nodup) :
    rsum (H.map (fun c => tally bs hop c)) =
      wsum (fun b => match topOf hop b.1 with | some c => H.contains c | none => false) bs := by
  induction bs with
  | nil => exact rsum_map_zero H
  | cons b rest ih =>
    have hsplit : ∀ c, tally (b :: rest) hop c =
        (if topOf hop b.1 = some c then b.2 else 0) + tally rest hop c := fun c => by
      rw [tally_eq_wsum, wsum_cons, ← tally_eq_wsum]; simp only [decide_eq_true_eq]
    rw [List.map_congr_left (fun c _ => hsplit c), rsum_map_add, ih, wsum_cons]
    congr 1
    -- the ballot counts once if its top is in `H`
    cases topOf hop b.1 with
    | none => simp only [reduceCtorEq, if_false]; exact rsum_map_zero H
    | some c0 => simp only [Option.some.injEq, List.contains_iff_mem]; exact rsum_map_ite_eq H hn c0 b.2

/-- Progress, for C01: while seats are open, a successful step leaves strictly fewer hopeful candidates. -/
theorem stvStep_decreases (cfg : STVCfg) (init : Profile) (q : Int) (ω : STVOracle) (rnd : Nat)
    (S S' : CState) (prev r : RoundState) (recs : List RoundState)
    (hi : init.cands.Nodup) (hcs : ∀ c ∈ S.hopeful, c ∈ init.cands)
    (inv : StvInv init.cands S prev recs) (hl : Linked S prev) (hm : S.nElected ≠ cfg.m)
    (h : stvStep cfg init q ω rnd S prev = .ok (S', r)) : S'.hopeful.length < S.hopeful.length := by
  rcases stvStep_eq_ok.1 h with ⟨g, tbs, bs', habove, he, -, rfl, -⟩ | ⟨-, hfill, rfl, -⟩ |
    ⟨-, -, lowest, c, tbs, hlast, hlc, rfl, -⟩
  · obtain ⟨hWn, hWs⟩ := electChoice_spec cfg q ω rnd S prev g tbs inv.hop_nodup inv.rem he
    have hpos := electChoice_nonempty cfg q ω rnd S prev g tbs hl inv.hop_nodup habove he
    have := (filter_not_contains_perm S.hopeful g.flatten inv.hop_nodup hWn hWs).length_eq
    rw [List.length_append] at this
    show (S.hopeful.filter _).length < _
    omega
  · show 0 < _
    omega
  · obtain ⟨hcl, hlh⟩ := loser_hopeful hi inv hlast hlc
    have := (filter_ne_perm S.hopeful c inv.hop_nodup (hlh c hcl)).length_eq
    rw [List.length_append, List.length_singleton] at this
    show (S.hopeful.filter _).length < _
    omega

end VK
