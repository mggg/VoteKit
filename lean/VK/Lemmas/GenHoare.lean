/-
  Partial-correctness reasoning for the replay layer `Gen.GenM`
  (`StateT (List Call) (Except String)`): what holds of the value whenever a replay accepts its log.
-/
import VK.Model.Gen

namespace VK
namespace Gen

def Ensures {α} (m : GenM α) (Q : α → Prop) : Prop :=
  ∀ (s : List Call) (a : α) (s' : List Call), m.run s = .ok (a, s') → Q a

variable {α β : Type} {m : GenM α} {f : α → GenM β} {P Q : α → Prop} {R : β → Prop}

theorem run_pure_ok {a b : α} {s s' : List Call} (h : (pure a : GenM α).run s = .ok (b, s')) : b = a ∧ s' = s := by
  cases h; exact ⟨rfl, rfl⟩

theorem run_bad_ok {msg : String} {b : α} {s s' : List Call} : (bad msg : GenM α).run s ≠ .ok (b, s') :=
  fun h => by cases h

theorem run_bind_ok {s s' : List Call} {b : β} (h : (m >>= f).run s = .ok (b, s')) :
    ∃ a s1, m.run s = .ok (a, s1) ∧ (f a).run s1 = .ok (b, s') := by
  rw [StateT.run_bind] at h
  cases hr : m.run s with
  | error e => rw [hr] at h; cases h
  | ok as => rw [hr] at h; exact ⟨as.1, as.2, rfl, h⟩

theorem ensures_any : Ensures m (fun _ => True) := fun _ _ _ _ => trivial

theorem ensures_pure {a : α} (h : Q a) : Ensures (pure a : GenM α) Q :=
  fun _ _ _ hx => (run_pure_ok hx).1 ▸ h

theorem ensures_bad {msg : String} : Ensures (bad msg : GenM α) Q :=
  fun _ _ _ hx => (run_bad_ok hx).elim

theorem ensures_bind (hm : Ensures m P) (hf : ∀ a, P a → Ensures (f a) R) : Ensures (m >>= f) R := by
  intro s b s' hb
  obtain ⟨a, s1, ha, hb⟩ := run_bind_ok hb
  exact hf a (hm s a s1 ha) s1 b s' hb

theorem ensures_bad_bind {msg : String} : Ensures (bad msg >>= f) R :=
  ensures_bind (P := fun _ => False) ensures_bad fun _ h => h.elim

theorem ensures_bind_any (hf : ∀ a, Ensures (f a) R) : Ensures (m >>= f) R :=
  ensures_bind ensures_any fun a _ => hf a

theorem Ensures.weaken (hm : Ensures m P) (h : ∀ a, P a → Q a) : Ensures m Q :=
  fun s a s' hx => h a (hm s a s' hx)

theorem ensures_ite {c : Prop} [Decidable c] {a b : GenM α} (ha : c → Ensures a Q) (hb : ¬ c → Ensures b Q) :
    Ensures (if c then a else b) Q := by
  split
  · exact ha ‹_›
  · exact hb ‹_›

/-- the replay's checks: reject when `c`, else go on knowing `¬ c` -/
theorem ensures_guard {c : Prop} [Decidable c] {msg : String} (h : ¬ c → Ensures m Q) :
    Ensures (if c then bad msg else m) Q :=
  ensures_ite (fun _ => ensures_bad) h

theorem ensures_mapM {f : α → GenM β} {l : List α} {n : Nat} (hn : l.length = n) (h : ∀ a ∈ l, Ensures (f a) R) :
    Ensures (l.mapM f) (fun out => out.length = n ∧ ∀ b ∈ out, R b) := by
  induction l generalizing n with
  | nil => exact ensures_pure ⟨hn, nofun⟩
  | cons x xs ih =>
    rw [List.mapM_cons]
    refine ensures_bind (h x List.mem_cons_self) fun b hb => ?_
    refine ensures_bind (ih rfl fun a ha => h a (List.mem_cons_of_mem _ ha)) fun bs hbs => ?_
    exact ensures_pure ⟨by rw [← hn, List.length_cons, List.length_cons, hbs.1], List.forall_mem_cons.2 ⟨hb, hbs.2⟩⟩

theorem ensures_mapM_flatten {ι : Type} {f : ι → GenM (List β)} {g : ι → Nat} {l : List ι}
    (h : ∀ i ∈ l, Ensures (f i) (fun o => o.length = g i ∧ ∀ b ∈ o, R b)) :
    Ensures (l.mapM f) (fun out => out.flatten.length = (l.map g).sum ∧ ∀ b ∈ out.flatten, R b) := by
  induction l with
  | nil => exact ensures_pure ⟨rfl, nofun⟩
  | cons x xs ih =>
    rw [List.mapM_cons]
    refine ensures_bind (h x List.mem_cons_self) fun o ho => ?_
    refine ensures_bind (ih fun a ha => h a (List.mem_cons_of_mem _ ha)) fun os hos => ?_
    refine ensures_pure ⟨?_, ?_⟩
    · rw [List.flatten_cons, List.length_append, ho.1, hos.1, List.map_cons, List.sum_cons]
    · rw [List.flatten_cons]
      exact fun b hb => (List.mem_append.1 hb).elim (ho.2 b) (hos.2 b)

/-- the tail of `Gen.run`: the counted pool is returned only when the whole log has been used -/
theorem run_done_ok {β : Type} {f : α → β} {log s' : List Call} {o : β}
    (h : (m >>= fun a => pure (f a) >>= fun out => get >>= fun l =>
      match l with
      | [] => pure out
      | c :: _ => bad s!"unexpected extra call {c.name}").run log = .ok (o, s')) :
    ∃ a, m.run log = .ok (a, []) ∧ o = f a := by
  obtain ⟨a, s1, ha, h⟩ := run_bind_ok h
  obtain ⟨_, _, hp, h⟩ := run_bind_ok h
  cases hp
  obtain ⟨_, _, hg, h⟩ := run_bind_ok h
  cases hg
  cases s1 with
  | nil => exact ⟨a, ha, (run_pure_ok h).1⟩
  | cons c cs => exact (run_bad_ok h).elim

/-- the generators `Gen.run` dispatches the bloc kinds to -/
def blocGens (P : Params) : List (GenM (List (List Ballot))) :=
  [runPL P P.slates.flatten.length, runPL P P.L, runBT P, runBTmcmc P, runAC P, runCambridge P, runCumulative P,
    runSlatePL P, runSlateBT P false, runSlateBT P true]

/-- what `Gen.run` accepts: a log that the generator of the kind accepts and uses up; the profile is the
count of that generator's pool, by bloc and as a whole for the bloc kinds -/
theorem run_ok {P : Params} {log : List Call} {out : GenOut} (h : run P log = .ok out) :
    if P.kind ∈ ["pl", "short_pl", "bt", "bt_mcmc", "ac", "cambridge", "cumulative", "slate_pl", "slate_bt",
        "slate_bt_mcmc"] then
      ∃ g ∈ blocGens P, ∃ bb, g.run log = .ok (bb, []) ∧ out = { byBloc := bb.map condense, agg := condense bb.flatten }
    else ∃ bs, (if P.kind ∈ ["point", "ic", "iac"] then runSimplex P else runSpatial P).run log = .ok (bs, []) ∧
      out = { byBloc := [], agg := condense bs } := by
  unfold run at h
  dsimp only at h
  split at h
  · next o s' hr =>
    cases h
    split
    · next hk =>
      rw [if_pos (List.contains_iff_mem.2 hk)] at hr
      split at hr
      all_goals
        obtain ⟨bb, hbb, rfl⟩ := run_done_ok hr
        exact ⟨_, by simp only [blocGens, List.mem_cons, true_or, or_true], bb, hbb, rfl⟩
    · next hk =>
      rw [if_neg (mt List.contains_iff_mem.1 hk)] at hr
      split at hr
      · next hs => rw [if_pos (List.contains_iff_mem.1 hs)]; exact run_done_ok hr
      · next hs => rw [if_neg (mt List.contains_iff_mem.2 hs)]; exact run_done_ok hr
  · cases h

end Gen
end VK
