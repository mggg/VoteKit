/-
  Listing the declared candidates in another order (C08). The model lists the members of a group, and the entries
  of a score dictionary, in declared order; `reG c'` re-lists a group in the order of `c'`. The utility layer
  commutes with that re-listing: nothing it computes depends on the order except the order inside groups and
  dictionaries, which Python's sets and dicts do not expose.
-/
import VK.Lemmas.Rename
import VK.Lemmas.Elect
namespace VK

def reG (c' : List Cand) (g : List Cand) : List Cand := c'.filter (fun x => g.contains x)
def reR (c' : List Cand) (r : Ranking) : Ranking := r.map (reG c')
def reSc (c' : List Cand) (sc : List (Cand × Rat)) : List (Cand × Rat) :=
  (reG c' (sc.map (·.1))).map (fun c => (c, lookupScore sc c))
def reTb (c' : List Cand) (t : List Cand × Ranking) : List Cand × Ranking := (reG c' t.1, reR c' t.2)
def reRS (c' : List Cand) (s : RoundState) : RoundState :=
  { round := s.round, remaining := reR c' s.remaining, elected := reR c' s.elected,
    eliminated := reR c' s.eliminated, tiebreaks := s.tiebreaks.map (reTb c'), scores := reSc c' s.scores }

theorem reRS_remaining (c' : List Cand) (s : RoundState) : (reRS c' s).remaining = reR c' s.remaining := rfl
theorem reRS_scores (c' : List Cand) (s : RoundState) : (reRS c' s).scores = reSc c' s.scores := rfl

def SubOf (c' g : List Cand) : Prop := ∀ x ∈ g, x ∈ c'

theorem contains_of_mem_iff {l l' : List Cand} (h : ∀ x, x ∈ l ↔ x ∈ l') (x : Cand) : l.contains x = l'.contains x := by
  rw [Bool.eq_iff_iff]; simp only [List.contains_iff_mem]; exact h x

theorem mem_reG (c' g : List Cand) (x : Cand) : x ∈ reG c' g ↔ x ∈ c' ∧ x ∈ g := by
  simp [reG, List.mem_filter]

theorem mem_reG_sub (c' g : List Cand) (hs : SubOf c' g) (x : Cand) : x ∈ reG c' g ↔ x ∈ g := by
  rw [mem_reG]; exact ⟨fun h => h.2, fun h => ⟨hs x h, h⟩⟩

theorem reG_perm (c' g : List Cand) (hN : c'.Nodup) (hg : g.Nodup) (hs : SubOf c' g) : (reG c' g).Perm g :=
  filter_contains_perm c' g hN hg hs

theorem reG_length (c' g : List Cand) (hN : c'.Nodup) (hg : g.Nodup) (hs : SubOf c' g) : (reG c' g).length = g.length :=
  (reG_perm c' g hN hg hs).length_eq

theorem contains_reG (c' g : List Cand) (hs : SubOf c' g) (x : Cand) : (reG c' g).contains x = g.contains x :=
  contains_of_mem_iff (mem_reG_sub c' g hs) x

theorem any_reG (c' g : List Cand) (hs : SubOf c' g) (P : Cand → Bool) : (reG c' g).any P = g.any P := by
  rw [Bool.eq_iff_iff]; simp only [List.any_eq_true, mem_reG_sub c' g hs]

theorem all_reG (c' g : List Cand) (hs : SubOf c' g) (P : Cand → Bool) : (reG c' g).all P = g.all P := by
  rw [Bool.eq_iff_iff]; simp only [List.all_eq_true, mem_reG_sub c' g hs]

theorem reG_nil (c' : List Cand) : reG c' [] = [] := by simp [reG]

theorem reG_singleton (c' : List Cand) (hN : c'.Nodup) (x : Cand) (hx : x ∈ c') : reG c' [x] = [x] :=
  List.perm_singleton.mp (reG_perm c' [x] hN (List.nodup_singleton x) (by intro y hy; rwa [List.mem_singleton.mp hy]))

theorem reG_congr (c' g g' : List Cand) (h : ∀ x, x ∈ g ↔ x ∈ g') : reG c' g = reG c' g' :=
  List.filter_congr fun x _ => contains_of_mem_iff h x

theorem reG_all (c' cands : List Cand) (hperm : c'.Perm cands) : reG c' cands = c' :=
  List.filter_eq_self.mpr fun x hx => by simpa using hperm.subset hx

theorem reG_filter (c' g : List Cand) (P : Cand → Bool) : reG c' (g.filter P) = (reG c' g).filter P := by
  unfold reG
  rw [List.filter_filter]
  apply List.filter_congr; intro x _
  rw [Bool.eq_iff_iff]
  simp only [List.contains_iff_mem, List.mem_filter, Bool.and_eq_true]
  exact and_comm

theorem reG_restrict (c' g : List Cand) (P : Cand → Bool) (hP : ∀ x ∈ g, P x = true) :
    reG (c'.filter P) g = reG c' g := by
  unfold reG
  rw [List.filter_filter]
  apply List.filter_congr; intro x _
  rw [Bool.eq_iff_iff]
  simp only [List.contains_iff_mem, Bool.and_eq_true]
  exact ⟨fun h => h.1, fun h => ⟨h, hP x h⟩⟩

theorem reG_isEmpty (c' g : List Cand) (hs : SubOf c' g) : (reG c' g).isEmpty = g.isEmpty := by
  rw [Bool.eq_iff_iff, List.isEmpty_iff, List.isEmpty_iff, List.eq_nil_iff_forall_not_mem,
    List.eq_nil_iff_forall_not_mem]
  simp only [mem_reG_sub c' g hs]

theorem flatten_reR_mem (c' : List Cand) (r : Ranking) (hs : ∀ g ∈ r, SubOf c' g) (x : Cand) :
    x ∈ (reR c' r).flatten ↔ x ∈ r.flatten := by
  simp only [reR, List.mem_flatten, List.mem_map]
  constructor
  · rintro ⟨l, ⟨g, hg, rfl⟩, hx⟩
    exact ⟨g, hg, (mem_reG_sub c' g (hs g hg) x).mp hx⟩
  · rintro ⟨g, hg, hx⟩
    exact ⟨reG c' g, ⟨g, hg, rfl⟩, (mem_reG_sub c' g (hs g hg) x).mpr hx⟩

theorem reR_restrict (c' : List Cand) (P : Cand → Bool) (r : Ranking) (h : ∀ x ∈ r.flatten, P x = true) :
    reR (c'.filter P) r = reR c' r :=
  List.map_congr_left fun g hg => reG_restrict c' g P fun x hx => h x (List.mem_flatten.mpr ⟨g, hg, hx⟩)

/-- duplicate-free and declared: what a group has to be for `reG c'` to rearrange it -/
def GoodGroup (c' g : List Cand) : Prop := g.Nodup ∧ SubOf c' g

theorem GoodGroup.sublist {c' g l : List Cand} (hg : GoodGroup c' g) (h : l.Sublist g) : GoodGroup c' l :=
  ⟨hg.1.sublist h, fun x hx => hg.2 x (h.subset hx)⟩

theorem GoodGroup.keys_map {c' l : List Cand} (hg : GoodGroup c' l) (F : Cand → Rat) :
    GoodGroup c' ((l.map fun c => (c, F c)).map (·.1)) := (VK.keys_map l F).symm ▸ hg

theorem goodGroup_of_perm {c' g : List Cand} (hperm : c'.Perm g) (hN : g.Nodup) : GoodGroup c' g :=
  ⟨hN, fun _ hx => hperm.symm.subset hx⟩

theorem flatten_reR_perm (c' : List Cand) (hN : c'.Nodup) (r : Ranking) (hr : ∀ g ∈ r, GoodGroup c' g) :
    (reR c' r).flatten.Perm r.flatten := by
  induction r with
  | nil => exact List.Perm.refl _
  | cons g rest ih =>
    rw [List.forall_mem_cons] at hr
    exact (reG_perm c' g hN hr.1.1 hr.1.2).append (ih hr.2)

theorem keys_reSc (c' : List Cand) (sc : List (Cand × Rat)) : (reSc c' sc).map (·.1) = reG c' (sc.map (·.1)) := by
  unfold reSc; exact keys_map _ _

theorem mem_reSc (c' : List Cand) (sc : List (Cand × Rat)) (hk : (sc.map (·.1)).Nodup) (hs : SubOf c' (sc.map (·.1)))
    (cs : Cand × Rat) : cs ∈ reSc c' sc ↔ cs ∈ sc := by
  unfold reSc
  simp only [List.mem_map]
  constructor
  · rintro ⟨c, hc, rfl⟩
    rw [mem_reG_sub c' _ hs] at hc
    obtain ⟨cs, hcs, rfl⟩ := List.mem_map.mp hc
    rw [lookupScore_of_mem hk hcs]; exact hcs
  · intro h
    refine ⟨cs.1, (mem_reG_sub c' _ hs cs.1).mpr (List.mem_map_of_mem h), ?_⟩
    rw [lookupScore_of_mem hk h]

theorem lookupScore_reSc (c' : List Cand) (sc : List (Cand × Rat)) (c : Cand) (hc : c ∈ sc.map (·.1)) (hc' : c ∈ c') :
    lookupScore (reSc c' sc) c = lookupScore sc c :=
  lookupScore_map _ (fun c => lookupScore sc c) c ((mem_reG c' _ c).mpr ⟨hc', hc⟩)

theorem reSc_restrict (c' : List Cand) (P : Cand → Bool) (sc : List (Cand × Rat)) (h : ∀ x ∈ sc.map (·.1), P x = true) :
    reSc (c'.filter P) sc = reSc c' sc := by
  unfold reSc; rw [reG_restrict c' _ P h]

theorem scoreToRanking_re (c' : List Cand) (sc : List (Cand × Rat)) (hk : (sc.map (·.1)).Nodup)
    (hs : SubOf c' (sc.map (·.1))) (hl : Bool) :
    scoreToRanking (reSc c' sc) hl = reR c' (scoreToRanking sc hl) := by
  unfold scoreToRanking reR
  have hv : distinctDesc ((reSc c' sc).map (·.2)) = distinctDesc (sc.map (·.2)) := by
    apply distinctDesc_congr
    intro y
    simp only [List.mem_map, mem_reSc c' sc hk hs]
  simp only [hv, List.map_map]
  apply List.map_congr_left; intro v _
  -- the group of value `v`: an entry `(c, lookupScore sc c)` of the re-listed dictionary has value `v` iff `c`'s
  -- entry in `sc` has
  unfold reSc reG
  rw [List.filter_map, List.map_map, List.filter_filter]
  simp only [Function.comp_def, List.map_id']
  apply List.filter_congr; intro x _
  rw [Bool.eq_iff_iff]
  simp only [Bool.and_eq_true, decide_eq_true_eq, List.contains_iff_mem, List.mem_map, List.mem_filter]
  constructor
  · rintro ⟨hv', ⟨cs, hcs, rfl⟩⟩
    exact ⟨cs, ⟨hcs, by rw [← hv', lookupScore_of_mem hk hcs]⟩, rfl⟩
  · rintro ⟨cs, ⟨hcs, hv'⟩, rfl⟩
    exact ⟨by rw [lookupScore_of_mem hk hcs]; exact hv', cs, hcs, rfl⟩

theorem scoreToRanking_groups_good (c' : List Cand) (sc : List (Cand × Rat)) (hk : (sc.map (·.1)).Nodup)
    (hs : SubOf c' (sc.map (·.1))) (hl : Bool) : ∀ g ∈ scoreToRanking sc hl, GoodGroup c' g := by
  intro g hg
  unfold scoreToRanking at hg
  simp only [List.mem_map] at hg
  obtain ⟨v, _, rfl⟩ := hg
  exact GoodGroup.sublist ⟨hk, hs⟩ (List.filter_sublist.map _)

theorem initialState_re (c' cands cands' : List Cand) (sc : List (Cand × Rat)) (hg : GoodGroup c' (sc.map (·.1))) :
    initialState cands' (some (reSc c' sc)) = reRS c' (initialState cands (some sc)) := by
  simp only [initialState, reRS, scoreToRanking_re c' sc hg.1 hg.2, reR, List.map_nil]

theorem filter_reSc (c' : List Cand) (sc : List (Cand × Rat)) (P : Cand → Bool) :
    (reSc c' sc).filter (fun cs => P cs.1) = reSc c' (sc.filter (fun cs => P cs.1)) := by
  unfold reSc
  rw [List.filter_map]
  have hk : (sc.filter (fun cs => P cs.1)).map (·.1) = (sc.map (·.1)).filter P := by
    rw [List.filter_map]; rfl
  rw [hk, reG_filter]
  have : ((fun cs : Cand × Rat => P cs.1) ∘ fun c => (c, lookupScore sc c)) = P := by funext c; rfl
  rw [this]
  apply List.map_congr_left; intro c hc
  rw [lookupScore_filter sc P c (List.mem_filter.mp hc).2]

theorem orderBy_re (c' : List Cand) (hN : c'.Nodup) (pri g : List Cand) (hg : GoodGroup c' g) :
    orderBy pri (reG c' g) = orderBy pri g := by
  unfold orderBy
  simp only [contains_reG c' g hg.2, reG_length c' g hN hg.1 hg.2, all_reG c' g hg.2]

theorem reR_singletons (c' : List Cand) (hN : c'.Nodup) (o : List Cand) (ho : SubOf c' o) :
    reR c' (o.map (fun c => [c])) = o.map (fun c => [c]) := by
  unfold reR; rw [List.map_map]
  apply List.map_congr_left; intro c hc
  exact reG_singleton c' hN c (ho c hc)

theorem reR_of_singletons (c' : List Cand) (hN : c'.Nodup) (t : Ranking) (h1 : ∀ x ∈ t, x.length = 1)
    (h2 : ∀ c ∈ t.flatten, c ∈ c') : reR c' t = t := by
  unfold reR
  conv_rhs => rw [← List.map_id t]
  apply List.map_congr_left; intro g hg
  obtain ⟨c, rfl⟩ := List.length_eq_one_iff.mp (h1 g hg)
  exact reG_singleton c' hN c (h2 c (List.mem_flatten.mpr ⟨[c], hg, List.mem_singleton_self c⟩))

theorem orderSingletons_re (c' : List Cand) (hN : c'.Nodup) (pri g : List Cand) (hg : GoodGroup c' g) :
    (orderBy pri (reG c' g) >>= fun o => pure (o.map fun c => [c])) =
      (orderBy pri g >>= fun o => (pure (o.map fun c => [c]) : Outcome Ranking)).map (reR c') := by
  rw [orderBy_re c' hN pri g hg, Outcome.map_bind]
  refine Outcome.bind_congr_ok fun o ho => ?_
  exact congrArg Outcome.ok (reR_singletons c' hN o fun x hx => hg.2 x (orderBy_mem pri g o ho x hx)).symm

theorem breakGroup_re (c' : List Cand) (hN : c'.Nodup) (pri g : List Cand) (hg : GoodGroup c' g) :
    breakGroup pri (reG c' g) = (breakGroup pri g).map (reR c') := by
  unfold breakGroup
  rw [reG_length c' g hN hg.1 hg.2, apply_ite (Outcome.map (reR c'))]
  exact if_congr Iff.rfl rfl (orderSingletons_re c' hN pri g hg)

theorem breakGroups_re (c' : List Cand) (hN : c'.Nodup) (pri : List Cand) (r : Ranking) (hr : ∀ g ∈ r, GoodGroup c' g) :
    breakGroups pri (reR c' r) = (breakGroups pri r).map (reR c') := by
  induction r with
  | nil => rfl
  | cons g gs ih =>
    rw [List.forall_mem_cons] at hr
    refine Outcome.bind_map_comm _ (breakGroup_re c' hN pri g hr.1) fun a _ => ?_
    refine Outcome.bind_map_comm _ (ih hr.2) fun b _ => ?_
    exact congrArg Outcome.ok (List.map_append ..).symm

theorem tiebreakSet_re (c' : List Cand) (hN : c'.Nodup) (pri s : List Cand) (hs : GoodGroup c' s)
    (p p' : Profile) (tb : TB)
    (hb : bordaScores p' = (bordaScores p).map (reSc c'))
    (hf : firstPlaceVotes p' = (firstPlaceVotes p).map (reSc c'))
    (hk : p.cands.Nodup) (hsub : SubOf c' p.cands) :
    tiebreakSet pri (reG c' s) (some p') tb = (tiebreakSet pri s (some p) tb).map (reR c') := by
  -- restrict the dictionary to the tied set, rank it, break the groups that are left
  have scored : ∀ (sc : List (Cand × Rat)), sc.map (·.1) = p.cands →
      breakGroups pri (scoreToRanking ((reSc c' sc).filter (fun cs => (reG c' s).contains cs.1))) =
        (breakGroups pri (scoreToRanking (sc.filter (fun cs => s.contains cs.1)))).map (reR c') := by
    intro sc hkeys
    have hg : GoodGroup c' ((sc.filter (fun cs => s.contains cs.1)).map (·.1)) :=
      GoodGroup.sublist (hkeys ▸ ⟨hk, hsub⟩) (List.filter_sublist.map _)
    simp only [contains_reG c' s hs.2]
    rw [filter_reSc, scoreToRanking_re c' _ hg.1 hg.2]
    exact breakGroups_re c' hN pri _ (scoreToRanking_groups_good c' _ hg.1 hg.2 true)
  cases tb with
  | random => exact orderSingletons_re c' hN pri s hs
  | borda =>
    exact Outcome.bind_map_comm _ hb fun sc hsc => scored sc (scoreFromRankings_keys p _ sc hsc)
  | firstPlace =>
    exact Outcome.bind_map_comm _ hf fun sc hsc => scored sc (scoreFromRankings_keys p _ sc hsc)

def reER (c' : List Cand) (r : ElectResult) : ElectResult :=
  { elected := reR c' r.elected, remaining := reR c' r.remaining, tiebreak := r.tiebreak.map (reTb c') }

theorem reER_untied (c' : List Cand) (acc r : Ranking) :
    Outcome.ok (⟨(reR c' acc).reverse, reR c' r, none⟩ : ElectResult) =
      (Outcome.ok ⟨acc.reverse, r, none⟩).map (reER c') :=
  congrArg (fun l => Outcome.ok (⟨l, reR c' r, none⟩ : ElectResult)) List.map_reverse.symm

theorem electLoop_re (c' : List Cand) (hN : c'.Nodup) (pri : List Cand) (p p' : Profile) (tb : Option TB)
    (hb : bordaScores p' = (bordaScores p).map (reSc c'))
    (hf : firstPlaceVotes p' = (firstPlaceVotes p).map (reSc c'))
    (hk : p.cands.Nodup) (hsub : SubOf c' p.cands)
    (k : Nat) (acc r : Ranking) (hr : ∀ g ∈ r, GoodGroup c' g) :
    electLoop pri (some p') tb k (reR c' acc) (reR c' r) = (electLoop pri (some p) tb k acc r).map (reER c') := by
  induction r generalizing k acc with
  | nil =>
    show electLoop pri (some p') tb k (reR c' acc) [] = _
    rw [electLoop, electLoop, apply_ite (Outcome.map (reER c'))]
    exact if_congr Iff.rfl (reER_untied c' acc []) rfl
  | cons g rest ih =>
    rw [List.forall_mem_cons] at hr
    show electLoop pri (some p') tb k (reR c' acc) (reG c' g :: reR c' rest) = _
    simp only [electLoop, reG_length c' g hN hr.1.1 hr.1.2, apply_ite (Outcome.map (reER c'))]
    refine if_congr Iff.rfl (reER_untied c' acc (g :: rest)) (if_congr Iff.rfl (ih _ (g :: acc) hr.2) ?_)
    cases tb with
    | none => rfl
    | some t =>
      refine Outcome.bind_map_comm _ (tiebreakSet_re c' hN pri g hr.1 p p' t hb hf hk hsub) fun broken _ => ?_
      simp only [Outcome.pure_eq, Outcome.map_ok, reER, reR, reTb, Option.map_some,
        List.map_append, List.map_reverse, List.map_take, List.map_drop]

theorem electFromRanking_re (c' : List Cand) (hN : c'.Nodup) (pri : List Cand) (p p' : Profile) (tb : Option TB)
    (hb : bordaScores p' = (bordaScores p).map (reSc c'))
    (hf : firstPlaceVotes p' = (firstPlaceVotes p).map (reSc c'))
    (hk : p.cands.Nodup) (hsub : SubOf c' p.cands)
    (m : Nat) (r : Ranking) (hr : ∀ g ∈ r, GoodGroup c' g) :
    electFromRanking pri (reR c' r) m (some p') tb = (electFromRanking pri r m (some p) tb).map (reER c') := by
  unfold electFromRanking
  rw [(flatten_reR_perm c' hN r hr).length_eq, apply_ite (Outcome.map (reER c')),
    apply_ite (Outcome.map (reER c')), ← electLoop_re c' hN pri p p' tb hb hf hk hsub m [] r hr]
  rfl

def stateCands (s : RoundState) : List Cand :=
  s.remaining.flatten ++ s.elected.flatten ++ s.eliminated.flatten ++
    s.tiebreaks.flatMap (fun t => t.1 ++ t.2.flatten) ++ s.scores.map (·.1)

theorem forall_stateCands (s : RoundState) (Q : Cand → Prop) :
    (∀ x ∈ stateCands s, Q x) ↔
      (∀ x ∈ s.remaining.flatten, Q x) ∧ (∀ x ∈ s.elected.flatten, Q x) ∧ (∀ x ∈ s.eliminated.flatten, Q x) ∧
      (∀ t ∈ s.tiebreaks, ∀ x ∈ t.1 ++ t.2.flatten, Q x) ∧ ∀ x ∈ s.scores.map (·.1), Q x := by
  simp only [stateCands, List.forall_mem_append, List.forall_mem_flatMap, and_assoc]

theorem reRS_restrict (c' : List Cand) (P : Cand → Bool) (s : RoundState) (h : ∀ x ∈ stateCands s, P x = true) :
    reRS (c'.filter P) s = reRS c' s := by
  obtain ⟨h1, h2, h3, h4, h5⟩ := (forall_stateCands s _).mp h
  unfold reRS
  rw [reR_restrict c' P _ h1, reR_restrict c' P _ h2, reR_restrict c' P _ h3, reSc_restrict c' P _ h5]
  congr 1
  apply List.map_congr_left; intro t ht
  have ht := List.forall_mem_append.mp (h4 t ht)
  unfold reTb
  rw [reG_restrict c' t.1 P ht.1, reR_restrict c' P _ ht.2]

/-- What the re-listing keeps of the groups: their members, position by position (tallies and tiebreak resolutions
are kept by the definition of `reSc` and `reTb`). This is what gives a theorem of the form
`run (withCands p c') = (run p).map (reRS c')` its meaning. -/
theorem reRS_same_sets (c' : List Cand) (s : RoundState)
    (hs : ∀ g ∈ s.remaining ++ s.elected ++ s.eliminated, SubOf c' g) :
    (reRS c' s).round = s.round ∧
    List.Forall₂ (fun g g' => ∀ x, x ∈ g' ↔ x ∈ g) s.remaining (reRS c' s).remaining ∧
    List.Forall₂ (fun g g' => ∀ x, x ∈ g' ↔ x ∈ g) s.elected (reRS c' s).elected ∧
    List.Forall₂ (fun g g' => ∀ x, x ∈ g' ↔ x ∈ g) s.eliminated (reRS c' s).eliminated := by
  have key : ∀ r : Ranking, (∀ g ∈ r, SubOf c' g) →
      List.Forall₂ (fun g g' => ∀ x, x ∈ g' ↔ x ∈ g) r (reR c' r) := fun r hr =>
    List.forall₂_map_right_iff.mpr (List.forall₂_same.mpr fun g hg => mem_reG_sub c' g (hr g hg))
  simp only [List.forall_mem_append] at hs
  exact ⟨rfl, key _ hs.1.1, key _ hs.1.2, key _ hs.2⟩

theorem topMRun_mentions (p : Profile) (m : Nat) (tb : Option TB) (pri : List Cand)
    (score : Profile → Outcome (List (Cand × Rat)))
    (hkeys : ∀ q sc, score q = .ok sc → sc.map (·.1) = q.cands) (hN : p.cands.Nodup)
    (st : States) (h : topMRun p m tb pri score = .ok st) :
    ∀ s ∈ st, ∀ x ∈ stateCands s, x ∈ p.cands := by
  obtain ⟨sc0, r, sc1, hsc0, hel, hsc1, rfl⟩ := topMRun_ok p m tb pri score st h
  have hk0 : sc0.map (·.1) = p.cands := hkeys p sc0 hsc0
  have hk1 : sc1.map (·.1) = p.cands.filter _ := hkeys _ sc1 hsc1
  have hperm0 := scoreToRanking_perm_keys hk0
  obtain ⟨hnd, hsub⟩ := ranking_side hN hperm0 (List.Sublist.refl _)
  have hr := electFromRanking_mentions pri (scoreToRanking sc0) m (some p) tb r hnd hsub hel
  intro s hs
  rcases List.mem_pair.mp hs with rfl | rfl
  · exact (forall_stateCands _ _).mpr ⟨fun x hx => hperm0.subset hx, nofun, nofun, nofun, fun x hx => hk0 ▸ hx⟩
  · refine (forall_stateCands _ _).mpr ⟨fun x hx => hperm0.subset (hr.1 x (List.mem_append_right _ hx)),
      fun x hx => hperm0.subset (hr.1 x (List.mem_append_left _ hx)), nofun,
      fun t ht x hx => hperm0.subset (hr.2 t ht x hx), fun x hx => (List.mem_filter.mp (hk1 ▸ hx)).1⟩

theorem pluralityRun_mentions (p : Profile) (m : Nat) (tb : Option TB) (pri : List Cand) (hN : p.cands.Nodup)
    (st : States) (h : pluralityRun p m tb pri = .ok st) : ∀ s ∈ st, ∀ x ∈ stateCands s, x ∈ p.cands :=
  topMRun_mentions p m tb pri firstPlaceVotes (fun q sc hq => scoreFromRankings_keys q _ sc hq) hN st
    (pluralityRun_ok h)

end VK
