/-
  `condense` groups by content and keeps the weight map.
-/
import VK.Lemmas.Sum
import Mathlib.Data.List.Nodup

namespace VK

theorem hasDup_iff (l : List Cand) : hasDup l = true ↔ ¬ l.Nodup := by
  induction l with
  | nil => simp [hasDup]
  | cons x xs ih =>
    rw [hasDup, Bool.or_eq_true, List.contains_iff_mem, ih, List.nodup_cons, not_and_or, not_not]

theorem hasDup_false_nodup (l : List Cand) (h : hasDup l = false) : l.Nodup :=
  of_not_not fun hn => Bool.false_ne_true (h.symm.trans ((hasDup_iff l).2 hn))

@[simp] theorem wt_nil (k : Content) : wt [] k = 0 := rfl

theorem wt_cons (b : Ballot) (bs : List Ballot) (k : Content) :
    wt (b :: bs) k = (if b.content = k then b.weight else 0) + wt bs k := by
  unfold wt
  by_cases h : b.content = k <;> simp [h]

@[simp] theorem totalWeight_nil : totalWeight [] = 0 := rfl

theorem totalWeight_cons (b : Ballot) (bs : List Ballot) :
    totalWeight (b :: bs) = b.weight + totalWeight bs := rfl

theorem wt_append (a b : List Ballot) (k : Content) : wt (a ++ b) k = wt a k + wt b k := by
  unfold wt; simp

theorem totalWeight_append (a b : List Ballot) : totalWeight (a ++ b) = totalWeight a + totalWeight b := by
  unfold totalWeight; simp

theorem wt_perm {bs bs' : List Ballot} (h : bs.Perm bs') (k : Content) : wt bs k = wt bs' k := by
  unfold wt
  rw [rsum_eq_sum, rsum_eq_sum]
  exact ((h.filter _).map _).sum_eq

theorem wt_zero_of_not_mem (bs : List Ballot) (k : Content) (h : ¬ ∃ b ∈ bs, b.content = k) :
    wt bs k = 0 := by
  rw [wt, List.filter_eq_nil_iff.2 fun b hb hk => h ⟨b, hb, of_decide_eq_true hk⟩]; rfl

theorem wt_eq_sum (bs : List Ballot) (k : Content) :
    wt bs k = rsum (bs.map (fun b => (if b.content = k then (1 : Rat) else 0) * b.weight)) := by
  induction bs with
  | nil => rfl
  | cons b bs ih => rw [wt_cons, ih, List.map_cons, rsum_cons, ite_mul, one_mul, zero_mul]

theorem wt_condense (bs : List Ballot) (k : Content) : wt (condense bs) k = wt bs k := by
  rw [wt_eq_sum, wt_eq_sum]
  exact sum_condense (fun c => if c = k then (1 : Rat) else 0) bs

theorem totalWeight_condense (bs : List Ballot) : totalWeight (condense bs) = totalWeight bs := by
  unfold totalWeight
  simpa only [one_mul] using sum_condense (fun _ => (1 : Rat)) bs

theorem accAdd_keys (k : Content) (w : Rat) (acc : List (Content × Rat)) :
    (accAdd k w acc).map (·.1) =
      if k ∈ acc.map (·.1) then acc.map (·.1) else acc.map (·.1) ++ [k] := by
  induction acc with
  | nil => rfl
  | cons x xs ih =>
    rw [accAdd]
    split
    · next h => rw [if_pos (h ▸ List.mem_cons_self)]; rfl
    · next h =>
      simp only [List.map_cons, ih, List.mem_cons, Ne.symm h, false_or]
      split <;> rfl

theorem accAdd_keys_nodup (k : Content) (w : Rat) (acc : List (Content × Rat))
    (h : (acc.map (·.1)).Nodup) : ((accAdd k w acc).map (·.1)).Nodup := by
  rw [accAdd_keys]
  split
  · exact h
  · next hk => exact List.nodup_append.2 ⟨h, List.nodup_singleton k, fun a ha b hb => by
      rw [List.mem_singleton.1 hb]; exact fun e => hk (e ▸ ha)⟩

theorem accAdd_mem_keys (k k' : Content) (w : Rat) (acc : List (Content × Rat)) :
    k' ∈ (accAdd k w acc).map (·.1) ↔ k' = k ∨ k' ∈ acc.map (·.1) := by
  rw [accAdd_keys]
  split
  · next h => exact ⟨Or.inr, fun h' => h'.elim (fun e => e ▸ h) id⟩
  · rw [List.mem_append, List.mem_singleton, or_comm]

theorem foldl_accAdd_keys_nodup (bs : List Ballot) (acc : List (Content × Rat))
    (h : (acc.map (·.1)).Nodup) :
    ((bs.foldl (fun acc b => accAdd b.content b.weight acc) acc).map (·.1)).Nodup := by
  induction bs generalizing acc with
  | nil => exact h
  | cons b bs ih => exact ih _ (accAdd_keys_nodup _ _ _ h)

theorem foldl_accAdd_mem_keys (bs : List Ballot) (acc : List (Content × Rat)) (k : Content) :
    k ∈ (bs.foldl (fun acc b => accAdd b.content b.weight acc) acc).map (·.1) ↔
      k ∈ acc.map (·.1) ∨ ∃ b ∈ bs, b.content = k := by
  induction bs generalizing acc with
  | nil => simp
  | cons b bs ih =>
    simp only [List.foldl_cons, ih, accAdd_mem_keys, List.mem_cons, exists_eq_or_imp]
    rw [or_comm (a := k = b.content), or_assoc, eq_comm]

theorem mem_contents (bs : List Ballot) (k : Content) : k ∈ contents bs ↔ ∃ b ∈ bs, b.content = k :=
  (foldl_accAdd_mem_keys bs [] k).trans (or_iff_right List.not_mem_nil)

theorem condense_contents (bs : List Ballot) :
    (condense bs).map Ballot.content = (accumulate bs).map (·.1) := by
  rw [condense, List.map_map]; rfl

theorem condense_contents_nodup (bs : List Ballot) : ((condense bs).map Ballot.content).Nodup := by
  rw [condense_contents]
  exact foldl_accAdd_keys_nodup bs [] List.nodup_nil

theorem mem_condense_content (bs : List Ballot) (k : Content) :
    k ∈ (condense bs).map Ballot.content ↔ ∃ b ∈ bs, b.content = k := by
  rw [condense_contents]
  exact mem_contents bs k

theorem mem_condense_ranking (bs : List Ballot) (b : Ballot) (hb : b ∈ condense bs) :
    ∃ b0 ∈ bs, b0.ranking = b.ranking ∧ b0.scores = b.scores := by
  have := (mem_condense_content bs b.content).1 (List.mem_map.2 ⟨b, hb, rfl⟩)
  obtain ⟨b0, hb0, hc⟩ := this
  unfold Ballot.content at hc
  exact ⟨b0, hb0, (Prod.mk.inj hc).1, (Prod.mk.inj hc).2⟩

end VK
