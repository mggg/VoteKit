/-
  The algebra of `Dist`. The probability of an event (`evProb`) has one law
  each for `bind`, `pure`, `weighted` and `uniform`; `prob` is the event "equals x" and `mass` the
  event "anything", so their laws are instances.
-/
import VK.Model.Dist
import VK.Lemmas.Sum
import Mathlib.Data.List.Nodup

namespace VK

def evProb {α} (d : Dist α) (E : α → Bool) : Rat := rsum ((d.supp.filter (fun e => E e.1)).map (·.2))

namespace Dist
variable {α β : Type}

theorem prob_mk_cons [DecidableEq α] (a : α) (q : Rat) (l : List (α × Rat)) (x : α) :
    prob ⟨(a, q) :: l⟩ x = (if a = x then q else 0) + prob ⟨l⟩ x := by
  unfold prob
  by_cases h : a = x <;> simp [h]

theorem prob_mk_append [DecidableEq α] (l₁ l₂ : List (α × Rat)) (x : α) :
    prob ⟨l₁ ++ l₂⟩ x = prob ⟨l₁⟩ x + prob ⟨l₂⟩ x := by
  unfold prob; simp

theorem prob_scale [DecidableEq α] (l : List (α × Rat)) (c : Rat) (x : α) :
    prob ⟨l.map (fun bq => (bq.1, c * bq.2))⟩ x = c * prob ⟨l⟩ x := by
  induction l with
  | nil => simp [prob]
  | cons e es ih =>
    obtain ⟨a, q⟩ := e
    rw [List.map_cons, prob_mk_cons, ih, prob_mk_cons]
    by_cases h : a = x <;> simp [h] <;> ring

theorem prob_eq_evProb [DecidableEq α] (d : Dist α) (x : α) :
    d.prob x = evProb d (fun a => decide (a = x)) := rfl

theorem mass_eq_evProb (d : Dist α) : d.mass = evProb d (fun _ => true) := by
  simp only [evProb, mass, List.filter_true]

theorem evProb_false (d : Dist α) : evProb d (fun _ => false) = 0 := by
  simp only [evProb, List.filter_false, List.map_nil, rsum_nil]

theorem evProb_congr (d : Dist α) (E F : α → Bool) (h : ∀ e ∈ d.supp, E e.1 = F e.1) :
    evProb d E = evProb d F := by
  unfold evProb
  rw [List.filter_congr h]

theorem forall_supp_bind (d : Dist α) (f : α → Dist β) (P : β → Prop)
    (h : ∀ ap ∈ d.supp, ∀ bq ∈ (f ap.1).supp, P bq.1) : ∀ e ∈ (bind d f).supp, P e.1 := by
  intro e he
  simp only [bind, List.mem_flatMap, List.mem_map] at he
  obtain ⟨ap, hap, bq, hbq, rfl⟩ := he
  exact h ap hap bq hbq

/-- total probability: `P(bind d f ∈ E) = Σ_a P(a) · P(f a ∈ E)` -/
theorem evProb_bind (d : Dist α) (f : α → Dist β) (E : β → Bool) :
    evProb (bind d f) E = rsum (d.supp.map (fun ap => ap.2 * evProb (f ap.1) E)) := by
  obtain ⟨l⟩ := d
  unfold bind evProb
  induction l with
  | nil => rfl
  | cons e es ih =>
    rw [List.flatMap_cons, List.filter_append, List.map_append, rsum_append, ih, List.map_cons, rsum_cons,
      List.filter_map, List.map_map, ← rsum_map_mul_left]
    rfl

theorem evProb_pure (a : α) (E : α → Bool) : evProb (pure a) E = if E a then 1 else 0 := by
  unfold evProb pure
  cases h : E a <;> simp [h]

theorem evProb_bind_pure (d : Dist α) (g : α → β) (E : β → Bool) :
    evProb (bind d (fun a => pure (g a))) E = evProb d (fun a => E (g a)) := by
  rw [evProb_bind, evProb, rsum_filter_map_eq_ite]
  simp only [evProb_pure, mul_ite, mul_one, mul_zero]

theorem prob_bind [DecidableEq β] (d : Dist α) (f : α → Dist β) (x : β) :
    prob (bind d f) x = rsum (d.supp.map (fun ap => ap.2 * prob (f ap.1) x)) :=
  evProb_bind d f (fun b => decide (b = x))

theorem mass_bind (d : Dist α) (f : α → Dist β) :
    mass (bind d f) = rsum (d.supp.map (fun ap => ap.2 * mass (f ap.1))) := by
  simp only [mass_eq_evProb, evProb_bind]

theorem prob_pure [DecidableEq α] (a x : α) : prob (pure a) x = if a = x then 1 else 0 := by
  simp only [prob_eq_evProb, evProb_pure, decide_eq_true_eq]

theorem mass_pure (a : α) : mass (pure a) = 1 := by
  simp only [mass_eq_evProb, evProb_pure, if_true]

theorem mass_bind_pure (d : Dist α) (g : α → β) : mass (bind d (fun a => pure (g a))) = mass d := by
  simp only [mass_eq_evProb, evProb_bind_pure]

theorem mass_bind_of_forall (d : Dist α) (f : α → Dist β) (h : ∀ ap ∈ d.supp, mass (f ap.1) = 1) :
    mass (bind d f) = mass d := by
  rw [mass_bind, List.map_congr_left (g := (·.2)) (fun ap hap => by rw [h ap hap, mul_one])]
  rfl

/-! ### sequences built head first -/

theorem prob_bind_cons [DecidableEq α] (d : Dist (List α)) (b a : α) (τ : List α) :
    prob (bind d (fun rest => pure (b :: rest))) (a :: τ) = if b = a then prob d τ else 0 := by
  rw [prob_eq_evProb, evProb_bind_pure]
  by_cases h : b = a
  · simp only [h, if_true, List.cons.injEq, true_and]; rfl
  · simp only [h, if_false, List.cons.injEq, false_and, decide_false, evProb_false]

theorem prob_bind_cons_nil [DecidableEq α] (d : Dist (List α)) (b : α) :
    prob (bind d (fun rest => pure (b :: rest))) [] = 0 := by
  rw [prob_eq_evProb, evProb_bind_pure]
  simp only [reduceCtorEq, decide_false, evProb_false]

theorem prob_bind_bind_cons [DecidableEq α] (d : Dist α) (F : α → Dist (List α)) (c : α) (r : List α) :
    prob (bind d (fun c' => bind (F c') (fun rest => pure (c' :: rest)))) (c :: r) =
      prob d c * prob (F c) r := by
  rw [prob_bind, prob, rsum_filter_map_eq_ite, ← rsum_map_mul_right]
  congr 1
  apply List.map_congr_left
  intro e _
  rw [prob_bind_cons]
  by_cases h : e.1 = c
  · simp only [h, if_true, decide_true]
  · simp only [h, if_false, decide_false, mul_zero, zero_mul, Bool.false_eq_true]

/-! ### the primitive draws -/

theorem evProb_bind_weighted (xs : List (α × Rat)) (f : α → Dist β) (E : β → Bool) :
    evProb (bind (weighted xs) f) E =
      rsum (xs.map (fun aw => aw.2 * evProb (f aw.1) E)) / rsum (xs.map (·.2)) := by
  rw [evProb_bind, ← rsum_map_div_mul]
  simp only [weighted, List.map_map, Function.comp_def]

theorem prob_bind_weighted [DecidableEq β] (xs : List (α × Rat)) (f : α → Dist β) (x : β) :
    prob (bind (weighted xs) f) x =
      rsum (xs.map (fun aw => aw.2 * prob (f aw.1) x)) / rsum (xs.map (·.2)) :=
  evProb_bind_weighted xs f (fun b => decide (b = x))

theorem evProb_bind_uniform (xs : List α) (f : α → Dist β) (E : β → Bool) :
    evProb (bind (uniform xs) f) E = rsum (xs.map (fun a => 1 / (xs.length : Rat) * evProb (f a) E)) := by
  rw [evProb_bind]
  simp only [uniform, List.map_map, Function.comp_def]

theorem mass_weighted (xs : List (α × Rat)) (h : rsum (xs.map (·.2)) ≠ 0) : mass (weighted xs) = 1 := by
  unfold mass weighted
  simp only [List.map_map, Function.comp_def]
  exact rsum_map_div_total xs (·.2) h

theorem mass_uniform (xs : List α) (h : xs ≠ []) : mass (uniform xs) = 1 := by
  unfold mass uniform
  simp only [List.map_map, Function.comp_def]
  rw [List.map_const', rsum_replicate, one_div, mul_inv_cancel₀]
  exact_mod_cast fun h0 => h (List.length_eq_zero_iff.1 h0)

theorem prob_mk_nodup [DecidableEq α] (l : List (α × Rat)) (c : α) (v : Rat) (hn : (l.map (·.1)).Nodup)
    (hc : (c, v) ∈ l) : prob ⟨l⟩ c = v := by
  rw [prob, rsum_filter_map_eq_ite, rsum_map_single l (c, v) _ hc (List.Nodup.of_map _ hn)]
  · simp only [decide_true, if_true]
  · intro b hb hne
    have : b.1 ≠ c := fun heq => hne (List.inj_on_of_nodup_map hn hb hc heq)
    simp only [this, decide_false, Bool.false_eq_true, if_false]

theorem prob_weighted_nodup [DecidableEq α] (x : List (α × Rat)) (c : α) (v : Rat)
    (hn : (x.map (·.1)).Nodup) (hc : (c, v) ∈ x) : (weighted x).prob c = v / rsum (x.map (·.2)) := by
  apply prob_mk_nodup
  · simpa only [List.map_map, Function.comp_def] using hn
  · exact List.mem_map.2 ⟨(c, v), hc, rfl⟩

theorem prob_uniform [DecidableEq α] (xs : List α) (x : α) :
    prob (uniform xs) x = ((xs.filter (· = x)).length : Rat) * (1 / (xs.length : Rat)) := by
  rw [prob, uniform, List.filter_map, List.map_map]
  simp only [Function.comp_def, List.map_const', rsum_replicate]

end Dist
end VK
