/-
  None of the functions a step of the STV count calls can answer `outOfFuel`:
  the only producer of that outcome in the STV model is the base case of `stvLoop`.
-/
import VK.Model.STV

namespace VK

def NoFuel {α} (o : Outcome α) : Prop := o ≠ .outOfFuel

theorem noFuel_ok {α} (a : α) : NoFuel (Outcome.ok a) := nofun
theorem noFuel_pure {α} (a : α) : NoFuel (pure a : Outcome α) := nofun
theorem noFuel_raised {α} (e : Exn) : NoFuel (Outcome.raised e : Outcome α) := nofun
theorem noFuel_mismatch {α} : NoFuel (Outcome.oracleMismatch : Outcome α) := nofun

theorem noFuel_bind_ok {α β} {x : Outcome α} {f : α → Outcome β} (hx : NoFuel x)
    (hf : ∀ a, x = .ok a → NoFuel (f a)) : NoFuel (x >>= f) := by
  cases x with
  | ok a => exact hf a rfl
  | raised e => exact noFuel_raised e
  | oracleMismatch => exact noFuel_mismatch
  | outOfFuel => exact absurd rfl hx

theorem noFuel_bind {α β} (x : Outcome α) (f : α → Outcome β) (hx : NoFuel x) (hf : ∀ a, NoFuel (f a)) :
    NoFuel (x >>= f) :=
  noFuel_bind_ok hx fun a _ => hf a

theorem noFuel_ite {α} {c : Prop} [Decidable c] {x y : Outcome α} (hx : NoFuel x) (hy : NoFuel y) :
    NoFuel (if c then x else y) := by
  split
  · exact hx
  · exact hy

theorem noFuel_orderBy (pri s : List Cand) : NoFuel (orderBy pri s) :=
  noFuel_ite (noFuel_ok _) noFuel_mismatch

theorem noFuel_breakGroup (pri g : List Cand) : NoFuel (breakGroup pri g) :=
  noFuel_ite (noFuel_ok _) (noFuel_bind _ _ (noFuel_orderBy _ _) fun _ => noFuel_pure _)

theorem noFuel_breakGroups (pri : List Cand) (r : Ranking) : NoFuel (breakGroups pri r) := by
  induction r with
  | nil => exact noFuel_ok _
  | cons g gs ih =>
    exact noFuel_bind _ _ (noFuel_breakGroup _ _) fun _ => noFuel_bind _ _ ih fun _ => noFuel_pure _

theorem noFuel_addMissing (p : Profile) : NoFuel (addMissing p) :=
  noFuel_ite (noFuel_raised _) (noFuel_ok _)

theorem noFuel_scoreFromRankings (p : Profile) (v : List Rat) : NoFuel (scoreFromRankings p v) :=
  noFuel_ite (noFuel_raised _) (noFuel_bind _ _ (noFuel_addMissing _) fun _ => noFuel_pure _)

theorem noFuel_tiebreakSet (pri s : List Cand) (prof : Option Profile) (tb : TB) :
    NoFuel (tiebreakSet pri s prof tb) := by
  unfold tiebreakSet
  split
  · exact noFuel_bind _ _ (noFuel_orderBy _ _) fun _ => noFuel_pure _
  · exact noFuel_raised _
  · exact noFuel_ite (noFuel_bind _ _ (noFuel_scoreFromRankings _ _) fun _ => noFuel_breakGroups _ _)
      (noFuel_bind _ _ (noFuel_scoreFromRankings _ _) fun _ => noFuel_breakGroups _ _)

theorem noFuel_electLoop (pri : List Cand) (prof : Option Profile) (tb : Option TB) (k : Nat) (acc rest : Ranking) :
    NoFuel (electLoop pri prof tb k acc rest) := by
  induction rest generalizing k acc with
  | nil => exact noFuel_ite (noFuel_ok _) (noFuel_raised _)
  | cons g rest ih =>
    refine noFuel_ite (noFuel_ok _) (noFuel_ite (ih _ _) ?_)
    cases tb with
    | none => exact noFuel_raised _
    | some t => exact noFuel_bind _ _ (noFuel_tiebreakSet _ _ _ _) fun _ => noFuel_pure _

theorem noFuel_electFromRanking (pri : List Cand) (ranking : Ranking) (m : Nat) (prof : Option Profile)
    (tb : Option TB) : NoFuel (electFromRanking pri ranking m prof tb) :=
  noFuel_ite (noFuel_raised _) (noFuel_ite (noFuel_raised _) (noFuel_electLoop _ _ _ _ _ _))

theorem noFuel_electChoice (cfg : STVCfg) (q : Int) (ω : STVOracle) (rnd : Nat) (S : CState) (prev : RoundState) :
    NoFuel (electChoice cfg q ω rnd S prev) :=
  noFuel_ite (noFuel_pure _) (noFuel_bind _ _ (noFuel_electFromRanking _ _ _ _ _) fun _ => noFuel_pure _)

theorem noFuel_loserChoice (init : Profile) (ω : STVOracle) (rnd : Nat) (lowest : List Cand) :
    NoFuel (loserChoice init ω rnd lowest) := by
  unfold loserChoice
  refine noFuel_ite (noFuel_bind _ _ (noFuel_tiebreakSet _ _ _ _) fun t => ?_) ?_
  · split
    · exact noFuel_pure _
    · exact noFuel_raised _
  · split
    · exact noFuel_pure _
    · exact noFuel_raised _

theorem noFuel_applyTransfer (cfg : STVCfg) (hop : List Cand) (q : Int) (sample : List (List Cand × Nat))
    (bs : List PBallot) (w : Cand) : NoFuel (applyTransfer cfg hop q sample bs w) := by
  unfold applyTransfer
  split
  · exact noFuel_ok _
  · exact noFuel_ite (noFuel_raised _) (noFuel_ok _)
  · refine noFuel_ite (noFuel_raised _) (noFuel_ite (noFuel_raised _) (noFuel_ite noFuel_mismatch ?_))
    split
    exact noFuel_ite noFuel_mismatch (noFuel_ok _)

theorem noFuel_applyTransfers (cfg : STVCfg) (hop : List Cand) (q : Int) (sample : Cand → List (List Cand × Nat))
    (ws : List Cand) (bs : List PBallot) : NoFuel (applyTransfers cfg hop q sample ws bs) := by
  induction ws generalizing bs with
  | nil => exact noFuel_ok _
  | cons w rest ih => exact noFuel_bind _ _ (noFuel_applyTransfer _ _ _ _ _ _) fun _ => ih _

theorem noFuel_stvStep (cfg : STVCfg) (init : Profile) (q : Int) (ω : STVOracle) (rnd : Nat)
    (S : CState) (prev : RoundState) : NoFuel (stvStep cfg init q ω rnd S prev) := by
  unfold stvStep
  refine noFuel_ite (noFuel_bind _ _ (noFuel_electChoice _ _ _ _ _ _) fun _ =>
    noFuel_bind _ _ (noFuel_applyTransfers _ _ _ _ _ _) fun _ => noFuel_pure _) (noFuel_ite (noFuel_pure _) ?_)
  split
  · exact noFuel_raised _
  · exact noFuel_bind _ _ (noFuel_loserChoice _ _ _ _) fun _ => noFuel_pure _

end VK
