/-
  Every positional score of the profile an STV count holds is a weight-linear functional of the count state
  (`scoreFromRankings_current`), hence the same for two equivalent ballot lists (`LinEq`), and so is the choice
  of winners with a scored ('borda' / 'first_place') tiebreak, which consults that profile.
-/
import VK.Lemmas.Rescore
import VK.Lemmas.LinEq

namespace VK

theorem scoreFromRankings_lineq (S S2 : CState) (v : List Rat) (hh : S.hopeful = S2.hopeful) (hb : LinEq S.bs S2.bs)
    (hnn : ∀ b ∈ S.bs, 0 ≤ b.2) (hnn2 : ∀ b ∈ S2.bs, 0 ≤ b.2) :
    scoreFromRankings (currentProfile S) v = scoreFromRankings (currentProfile S2) v := by
  rw [scoreFromRankings_current S v hnn, scoreFromRankings_current S2 v hnn2, ← hh]
  split
  · rfl
  · congr 1
    apply List.map_congr_left
    intro c _
    rw [hb]

theorem tiebreakSet_lineq (pri s : List Cand) (S S2 : CState) (tb : TB) (hh : S.hopeful = S2.hopeful)
    (hb : LinEq S.bs S2.bs) (hnn : ∀ b ∈ S.bs, 0 ≤ b.2) (hnn2 : ∀ b ∈ S2.bs, 0 ≤ b.2) :
    tiebreakSet pri s (some (currentProfile S)) tb = tiebreakSet pri s (some (currentProfile S2)) tb := by
  have hc : (currentProfile S).cands = (currentProfile S2).cands := hh
  have hsc := fun v => scoreFromRankings_lineq S S2 v hh hb hnn hnn2
  cases tb <;> simp only [tiebreakSet, firstPlaceVotes, bordaScores, hc, hsc]

theorem electChoice_lineq (cfg : STVCfg) (q : Int) (ω : STVOracle) (rnd : Nat) (S S2 : CState) (prev : RoundState)
    (hh : S.hopeful = S2.hopeful) (hb : LinEq S.bs S2.bs) (hnn : ∀ b ∈ S.bs, 0 ≤ b.2) (hnn2 : ∀ b ∈ S2.bs, 0 ≤ b.2) :
    electChoice cfg q ω rnd S prev = electChoice cfg q ω rnd S2 prev :=
  electChoice_congr cfg q ω rnd S S2 prev fun _ s t _ => tiebreakSet_lineq _ s S S2 t hh hb hnn hnn2

end VK
