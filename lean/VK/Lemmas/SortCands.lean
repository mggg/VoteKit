/-
  `sortCands` (insertion sort that drops repeats) returns the same candidates,
  strictly increasing.
-/
import VK.Model.Basic
import Mathlib.Data.List.Perm.Subperm

namespace VK

theorem mem_insertSorted (c x : Cand) (l : List Cand) : x ∈ insertSorted c l ↔ x = c ∨ x ∈ l := by
  induction l with
  | nil => exact List.mem_cons
  | cons y ys ih =>
    unfold insertSorted
    split
    · exact List.mem_cons
    · split
      · next h => rw [h, List.mem_cons, or_self_left]
      · rw [List.mem_cons, ih, List.mem_cons, or_left_comm]

theorem mem_sortCands (x : Cand) (l : List Cand) : x ∈ sortCands l ↔ x ∈ l := by
  unfold sortCands
  induction l with
  | nil => rfl
  | cons y ys ih => rw [List.foldr_cons, mem_insertSorted, ih, List.mem_cons]

theorem insertSorted_sorted (c : Cand) (l : List Cand) (h : l.Pairwise (· < ·)) :
    (insertSorted c l).Pairwise (· < ·) := by
  induction l with
  | nil => exact List.pairwise_singleton _ _
  | cons y ys ih =>
    obtain ⟨hy, hys⟩ := List.pairwise_cons.1 h
    unfold insertSorted
    split
    · next h1 =>
      exact List.pairwise_cons.2 ⟨fun a ha => (List.mem_cons.1 ha).elim (· ▸ h1) (fun ha => Nat.lt_trans h1 (hy a ha)), h⟩
    · split
      · exact h
      · next h1 h2 =>
        refine List.pairwise_cons.2 ⟨fun a ha => ?_, ih hys⟩
        rcases (mem_insertSorted c a ys).1 ha with rfl | ha
        · exact Nat.lt_of_le_of_ne (Nat.le_of_not_lt h1) (Ne.symm h2)
        · exact hy a ha

theorem sortCands_sorted (l : List Cand) : (sortCands l).Pairwise (· < ·) := by
  unfold sortCands
  induction l with
  | nil => exact List.Pairwise.nil
  | cons y ys ih => exact insertSorted_sorted y _ ih

theorem sortCands_nodup (l : List Cand) : (sortCands l).Nodup :=
  (sortCands_sorted l).imp (fun h => Nat.ne_of_lt h)

theorem sortCands_perm (l : List Cand) (h : l.Nodup) : (sortCands l).Perm l :=
  (List.perm_ext_iff_of_nodup (sortCands_nodup l) h).2 fun x => mem_sortCands x l

theorem sortCands_length_le (l : List Cand) : (sortCands l).length ≤ l.length :=
  (List.subperm_of_subset (sortCands_nodup l) (fun c hc => (mem_sortCands c l).1 hc)).length_le

theorem filter_contains_sortCands (l e : List Cand) :
    l.filter (fun c => !e.contains c) = l.filter (fun c => !(sortCands e).contains c) := by
  apply List.filter_congr
  intro c _
  congr 1
  rw [Bool.eq_iff_iff]
  simp [mem_sortCands]

end VK
