/-
  What the whole-ballot (random) surplus transfer does to the weights of the count
  state, for every value of the sample oracle; and `GoodTransfers`, what C07 needs of the transfers of a round,
  which the fractional and the random rule both provide.
-/
import VK.Lemmas.PSC
import VK.Lemmas.STVEqns
import Mathlib.Data.Rat.Floor
import Mathlib.Algebra.Order.Floor.Ring

namespace VK

def totalNeed (need : List (List Cand × Nat)) : Nat := (need.map (·.2)).foldl (· + ·) 0

theorem totalNeed_cons (kn : List Cand × Nat) (rest : List (List Cand × Nat)) :
    totalNeed (kn :: rest) = kn.2 + totalNeed rest := by
  simp only [totalNeed, List.map_cons, List.foldl_cons, Nat.zero_add]
  exact List.foldl_assoc (a₁ := kn.2) (a₂ := 0)

theorem takeUnits_total (need : List (List Cand × Nat)) (k : List Cand) (avail : Nat) :
    (takeUnits need k avail).1 + totalNeed (takeUnits need k avail).2 = totalNeed need ∧
    (takeUnits need k avail).1 ≤ avail := by
  induction need with
  | nil => exact ⟨rfl, Nat.zero_le _⟩
  | cons kn rest ih =>
    simp only [takeUnits]
    split
    · exact ⟨by rw [totalNeed_cons, totalNeed_cons, ← Nat.add_assoc, Nat.add_sub_cancel' (Nat.min_le_left _ _)],
        Nat.min_le_right _ _⟩
    · exact ⟨by rw [totalNeed_cons, totalNeed_cons, Nat.add_left_comm, ih.1], ih.2⟩

theorem floor_toNat_le (x : Rat) (hx : 0 ≤ x) : ((x.floor.toNat : Nat) : Rat) ≤ x := by
  have h : ((x.floor.toNat : Nat) : Int) = x.floor :=
    Int.toNat_of_nonneg (Rat.le_floor_iff.2 (by simpa using hx))
  calc ((x.floor.toNat : Nat) : Rat) = ((x.floor : Int) : Rat) := by exact_mod_cast h
    _ ≤ x := Rat.floor_le x

/-- what the walk of `randomAssign` does with one ballot: its new weight and the requests still open -/
def serve (hop : List Cand) (w : Cand) (b : PBallot) (need : List (List Cand × Nat)) :
    Rat × List (List Cand × Nat) :=
  if topOf hop b.1 = some w then
    if (contRanking hop w b.1).isEmpty then (0, need)
    else ((takeUnits need (contRanking hop w b.1) b.2.floor.toNat).1,
      (takeUnits need (contRanking hop w b.1) b.2.floor.toNat).2)
  else (b.2, need)

theorem randomAssign_cons (hop : List Cand) (w : Cand) (b : PBallot) (rest : List PBallot)
    (need : List (List Cand × Nat)) :
    randomAssign hop w (b :: rest) need =
      ((b.1, (serve hop w b need).1) :: (randomAssign hop w rest (serve hop w b need).2).1,
        (randomAssign hop w rest (serve hop w b need).2).2) := by
  rw [randomAssign, serve]
  by_cases hled : topOf hop b.1 = some w
  · by_cases hemp : (contRanking hop w b.1).isEmpty = true
    · simp only [hled, hemp, if_true]
    · simp only [hled, hemp, if_true, Bool.false_eq_true, if_false]
  · simp only [hled, if_false]

theorem serve_spec (hop : List Cand) (w : Cand) (b : PBallot) (need : List (List Cand × Nat)) (hb : 0 ≤ b.2) :
    0 ≤ (serve hop w b need).1 ∧ (serve hop w b need).1 ≤ b.2 ∧
    (topOf hop b.1 ≠ some w → serve hop w b need = (b.2, need)) ∧
    (topOf hop b.1 = some w →
      (serve hop w b need).1 + totalNeed (serve hop w b need).2 = totalNeed need ∧
      ((contRanking hop w b.1).isEmpty = true → (serve hop w b need).1 = 0)) := by
  rw [serve]
  split
  · rename_i hled
    split
    · exact ⟨le_refl _, hb, fun h => absurd hled h, fun _ => ⟨zero_add _, fun _ => rfl⟩⟩
    · rename_i hk
      obtain ⟨t1, t2⟩ := takeUnits_total need (contRanking hop w b.1) b.2.floor.toNat
      exact ⟨Nat.cast_nonneg _, le_trans (Nat.cast_le.2 t2) (floor_toNat_le b.2 hb), fun h => absurd hled h,
        fun _ => ⟨by dsimp only; exact_mod_cast t1, fun h => absurd h hk⟩⟩
  · rename_i hled
    exact ⟨hb, le_refl _, fun _ => rfl, fun h => absurd h hled⟩

/-- The random assignment in terms of selected weights: weights stay non-negative; ballots not led by the winner
are untouched; the winner's pile ends up with exactly the units that were assigned; a selection `pr` of the
pile loses no more than a larger selection `pr2` (with `pr := false`: no selection gains; with `pr2 := true`:
no selection loses more than the whole pile does); exhausted ballots end at weight 0. -/
theorem randomAssign_spec (hop : List Cand) (w : Cand) (bs : List PBallot) (need : List (List Cand × Nat))
    (hnn : ∀ b ∈ bs, 0 ≤ b.2) :
    (∀ b ∈ (randomAssign hop w bs need).1, 0 ≤ b.2) ∧
    (∀ pr : List Cand → Bool,
      wsum (fun b => pr b.1 && !decide (topOf hop b.1 = some w)) (randomAssign hop w bs need).1 =
        wsum (fun b => pr b.1 && !decide (topOf hop b.1 = some w)) bs) ∧
    (wsum (fun b => decide (topOf hop b.1 = some w)) (randomAssign hop w bs need).1 + (totalNeed (randomAssign hop w bs need).2 : Rat) = (totalNeed need : Rat)) ∧
    (∀ pr pr2 : List Cand → Bool, (∀ r, pr r = true → pr2 r = true) →
      wsum (fun b => pr b.1 && decide (topOf hop b.1 = some w)) bs -
        wsum (fun b => pr b.1 && decide (topOf hop b.1 = some w)) (randomAssign hop w bs need).1 ≤
      wsum (fun b => pr2 b.1 && decide (topOf hop b.1 = some w)) bs -
        wsum (fun b => pr2 b.1 && decide (topOf hop b.1 = some w)) (randomAssign hop w bs need).1) ∧
    (wsum (fun b => (contRanking hop w b.1).isEmpty && decide (topOf hop b.1 = some w)) (randomAssign hop w bs need).1 = 0) := by
  induction bs generalizing need with
  | nil => exact ⟨fun _ h => absurd h List.not_mem_nil, fun _ => rfl, zero_add _, fun _ _ _ => le_refl _, rfl⟩
  | cons b rest ih =>
    obtain ⟨hx0, hxb, hoff, hon⟩ := serve_spec hop w b need (hnn b List.mem_cons_self)
    rw [randomAssign_cons]
    generalize serve hop w b need = s at hx0 hxb hoff hon ⊢
    obtain ⟨x, need1⟩ := s
    obtain ⟨i1, i2, i3, i4, i5⟩ := ih need1 (fun y hy => hnn y (List.mem_cons_of_mem _ hy))
    refine ⟨List.forall_mem_cons.2 ⟨hx0, i1⟩, ?_⟩
    by_cases hled : topOf hop b.1 = some w
    · obtain ⟨hneed, hemp⟩ := hon hled
      simp only [wsum_cons, hled, decide_true, Bool.not_true, Bool.and_false, Bool.and_true, Bool.false_eq_true,
        if_false, if_true, zero_add]
      refine ⟨i2, by rw [add_assoc, i3, hneed], fun pr pr2 himp => ?_, ?_⟩
      · have := i4 pr pr2 himp
        cases hp : pr b.1
        · simp only [Bool.false_eq_true, if_false]; split <;> linarith only [this, hxb]
        · simp only [himp _ hp, if_true]; linarith only [this]
      · rw [i5, add_zero]
        cases hk : (contRanking hop w b.1).isEmpty
        · rfl
        · exact hemp hk
    · obtain ⟨rfl, rfl⟩ := Prod.mk.inj (hoff hled)
      simp only [wsum_cons, hled, decide_false, Bool.not_false, Bool.and_true, Bool.and_false, Bool.false_eq_true,
        if_false, zero_add]
      exact ⟨fun pr => by rw [i2 pr], i3, i4, i5⟩

theorem isIntRat_iff (x : Rat) : isIntRat x = true ↔ ((x.num : Int) : Rat) = x := by
  unfold isIntRat
  simp only [decide_eq_true_eq]
  exact Rat.den_eq_one_iff x

theorem floor_toNat_int (x : Rat) (hi : isIntRat x = true) (h0 : 0 ≤ x) : ((x.floor.toNat : Nat) : Rat) = x := by
  have hx := (isIntRat_iff x).1 hi
  rw [← hx, Rat.floor_intCast]
  exact_mod_cast Int.toNat_of_nonneg (Rat.num_nonneg.2 h0)

theorem isIntRat_nat (n : Nat) : isIntRat (n : Rat) = true := by
  unfold isIntRat; simp

theorem floor_rsum_int (l : List Rat) (h : ∀ x ∈ l, isIntRat x = true) : ((rsum l).floor : Rat) = rsum l := by
  have hex : ∃ z : Int, (z : Rat) = rsum l := by
    induction l with
    | nil => exact ⟨0, rfl⟩
    | cons x xs ih =>
      obtain ⟨z, hz⟩ := ih (fun y hy => h y (List.mem_cons_of_mem _ hy))
      exact ⟨x.num + z, by rw [Int.cast_add, (isIntRat_iff x).1 (h x List.mem_cons_self), hz]; rfl⟩
  obtain ⟨z, hz⟩ := hex
  rw [← hz, Rat.floor_intCast]

theorem totalNeed_zero (need : List (List Cand × Nat)) (h : need.any (fun kn => kn.2 ≠ 0) = false) :
    totalNeed need = 0 := by
  induction need with
  | nil => rfl
  | cons kn rest ih =>
    simp only [List.any_cons, Bool.or_eq_false_iff, decide_eq_false_iff_not, ne_eq, not_not] at h
    rw [totalNeed_cons, h.1, ih h.2]

theorem applyTransfer_random_ok {cfg : STVCfg} {hop : List Cand} {q : Int} {sample : List (List Cand × Nat)}
    {bs bs' : List PBallot} {w : Cand} (hf : cfg.transfer = .random)
    (h : applyTransfer cfg hop q sample bs w = .ok bs') :
    (∀ b ∈ bs.filter (fun b => topOf hop b.1 = some w), isIntRat b.2 = true) ∧
    (totalNeed sample : Int) = (tally bs hop w).floor - q ∧
    bs' = (randomAssign hop w bs sample).1 ∧ totalNeed (randomAssign hop w bs sample).2 = 0 := by
  unfold applyTransfer at h
  simp only [hf, ite_eq_iff, reduceCtorEq, and_false, false_or, Outcome.ok.injEq, Bool.not_eq_true,
    Bool.or_eq_false_iff, decide_eq_false_iff_not, ne_eq, not_not] at h
  obtain ⟨hint, -, ⟨htot, -⟩, hneed, rfl⟩ := h
  refine ⟨fun b hb => ?_, htot, rfl, totalNeed_zero _ hneed⟩
  simpa using List.any_eq_false.1 hint b hb

/-- what one whole-ballot transfer of winner `w` does (every sample the oracle may report) -/
structure RandomFacts (hop : List Cand) (q : Int) (w : Cand) (bs bs' : List PBallot) : Prop where
  nn : ∀ b ∈ bs', 0 ≤ b.2
  other : ∀ pr : List Cand → Bool,
    wsum (fun b => pr b.1 && !decide (topOf hop b.1 = some w)) bs' =
      wsum (fun b => pr b.1 && !decide (topOf hop b.1 = some w)) bs
  nogain : ∀ pr : List Cand → Bool,
    wsum (fun b => pr b.1 && decide (topOf hop b.1 = some w)) bs' ≤
      wsum (fun b => pr b.1 && decide (topOf hop b.1 = some w)) bs
  ledTotal : wsum (fun b => decide (topOf hop b.1 = some w)) bs' = tally bs hop w - q
  coal : ∀ pr : List Cand → Bool,
    (∀ r, pr r = true → topOf hop r = some w → (contRanking hop w r).isEmpty = false) →
    wsum (fun b => pr b.1 && decide (topOf hop b.1 = some w)) bs - q ≤
      wsum (fun b => pr b.1 && decide (topOf hop b.1 = some w)) bs'

theorem applyTransfer_random_facts (cfg : STVCfg) (hop : List Cand) (q : Int) (sample : List (List Cand × Nat))
    (bs bs' : List PBallot) (w : Cand) (hf : cfg.transfer = .random) (hnn : ∀ b ∈ bs, 0 ≤ b.2)
    (h : applyTransfer cfg hop q sample bs w = .ok bs') : RandomFacts hop q w bs bs' := by
  obtain ⟨hint, htotal, rfl, hneed0⟩ := applyTransfer_random_ok hf h
  obtain ⟨s1, s2, s3, s4, _⟩ := randomAssign_spec hop w bs sample hnn
  have hfloor : ((tally bs hop w).floor : Rat) = tally bs hop w :=
    floor_rsum_int _ (fun x hx => by obtain ⟨b, hb, rfl⟩ := List.mem_map.1 hx; exact hint b hb)
  have hledT : wsum (fun b => decide (topOf hop b.1 = some w)) (randomAssign hop w bs sample).1 =
      tally bs hop w - q := by
    rw [hneed0, Nat.cast_zero, add_zero] at s3
    rw [s3, ← hfloor]
    exact_mod_cast htotal
  -- no ballot gains, so a part of the winner's pile loses at most what the whole pile loses: `q`
  have hloss : ∀ pr : List Cand → Bool,
      wsum (fun b => pr b.1 && decide (topOf hop b.1 = some w)) bs -
        wsum (fun b => pr b.1 && decide (topOf hop b.1 = some w)) (randomAssign hop w bs sample).1 ≤ q := by
    intro pr
    have := s4 pr (fun _ => true) (fun _ _ => rfl)
    simp only [Bool.true_and] at this
    rw [← tally_eq_wsum, hledT, sub_sub_cancel] at this
    exact this
  refine ⟨s1, s2, fun pr => ?_, hledT, fun pr _ => sub_le_comm.1 (hloss pr)⟩
  have := s4 (fun _ => false) pr (fun _ hr => nomatch hr)
  have z : ∀ l : List PBallot, wsum (fun b => false && decide (topOf hop b.1 = some w)) l = 0 :=
    fun l => wsum_false _ l (fun _ _ => rfl)
  rw [z, z, sub_self] at this
  exact sub_nonneg.1 this

theorem RandomFacts.change {hop : List Cand} {q : Int} {w : Cand} {bs bs' : List PBallot}
    (F : RandomFacts hop q w bs bs') (pr : List Cand → Bool) :
    wsum (fun b => pr b.1) bs' - wsum (fun b => pr b.1) bs =
      wsum (fun b => pr b.1 && decide (topOf hop b.1 = some w)) bs' -
        wsum (fun b => pr b.1 && decide (topOf hop b.1 = some w)) bs := by
  rw [wsum_split (fun b => pr b.1) (fun b => decide (topOf hop b.1 = some w)) bs',
    wsum_split (fun b => pr b.1) (fun b => decide (topOf hop b.1 = some w)) bs, F.other pr,
    add_sub_add_left_eq_sub]

theorem RandomFacts.disjoint {hop : List Cand} {q : Int} {w : Cand} {bs bs' : List PBallot}
    (F : RandomFacts hop q w bs bs') (pr : List Cand → Bool) (hd : ∀ r, pr r = true → topOf hop r ≠ some w) :
    wsum (fun b => pr b.1) bs' = wsum (fun b => pr b.1) bs := by
  have z : ∀ l : List PBallot, wsum (fun b => pr b.1 && decide (topOf hop b.1 = some w)) l = 0 := fun l =>
    wsum_false _ l fun b _ => by
      cases hp : pr b.1
      · rfl
      · simpa using hd _ hp
  have := F.change pr
  rw [z, z, sub_self] at this
  exact sub_eq_zero.1 this

/-- what the proportionality argument needs from the transfers of one round -/
def GoodTransfers (cfg : STVCfg) : Prop :=
  ∀ (hop : List Cand) (q : Int) (sample : Cand → List (List Cand × Nat)) (pr : List Cand → Bool) (inS : Cand → Bool)
    (ws : List Cand) (bs bs' : List PBallot),
    0 < q → (∀ b ∈ bs, 0 ≤ b.2) → ws.Nodup → (∀ w ∈ ws, (q : Rat) ≤ tally bs hop w) →
    (∀ w ∈ ws, inS w = false → wsum (fun b => pr b.1 && decide (topOf hop b.1 = some w)) bs = 0) →
    (∀ w ∈ ws, inS w = true → ∀ r, pr r = true → topOf hop r = some w → (contRanking hop w r).isEmpty = false) →
    applyTransfers cfg hop q sample ws bs = .ok bs' →
    (∀ b ∈ bs', 0 ≤ b.2) ∧
    wsum (fun b => pr b.1) bs - (q : Rat) * ((ws.filter inS).length : Rat) ≤ wsum (fun b => pr b.1) bs' ∧
    active bs' hop = active bs hop - (q : Rat) * (ws.length : Rat)

theorem goodTransfers_fractional (cfg : STVCfg) (hf : cfg.transfer = .fractional) : GoodTransfers cfg := by
  intro hop q sample pr inS ws bs bs' hq hnn hws hge hout _ h
  obtain ⟨h1, h2⟩ := applyTransfers_coalition cfg hop q sample pr inS hf hq ws bs bs' hnn hws hge hout h
  exact ⟨h1, h2, applyTransfers_fractional_active cfg hop q sample ws bs bs' hf h⟩

/-- the winners' piles are disjoint, so the transfers of a round do not interfere -/
theorem goodTransfers_of_facts (cfg : STVCfg)
    (hF : ∀ hop (q : Int) sample bs bs' w, 0 < q → (∀ b ∈ bs, 0 ≤ b.2) → (q : Rat) ≤ tally bs hop w →
      applyTransfer cfg hop q sample bs w = .ok bs' → RandomFacts hop q w bs bs') : GoodTransfers cfg := by
  intro hop q sample pr inS ws bs bs' hq hnn hws hge hout htr h
  induction ws generalizing bs with
  | nil =>
    cases h
    exact ⟨hnn, by simp, by simp⟩
  | cons w rest ih =>
    obtain ⟨bs1, h1, h2⟩ := applyTransfers_cons_ok.1 h
    have F := hF hop q _ bs bs1 w hq hnn (hge w List.mem_cons_self) h1
    rw [List.nodup_cons] at hws
    -- the piles of the later winners are disjoint from the pile of `w`
    have hoff : ∀ w' ∈ rest, ∀ r, topOf hop r = some w' → topOf hop r ≠ some w :=
      fun w' hw' r hr e => hws.1 (Option.some.inj (hr.symm.trans e) ▸ hw')
    obtain ⟨hnn', hk', hact'⟩ := ih bs1 F.nn hws.2
      (fun w' hw' => by
        rw [tally_eq_wsum, F.disjoint (fun r => decide (topOf hop r = some w'))
          (fun r hr => hoff w' hw' r (of_decide_eq_true hr)), ← tally_eq_wsum]
        exact hge w' (List.mem_cons_of_mem _ hw'))
      (fun w' hw' hin => by
        rw [F.disjoint (fun r => pr r && decide (topOf hop r = some w'))
          (fun r hr => hoff w' hw' r (of_decide_eq_true (Bool.and_eq_true_iff.1 hr).2))]
        exact hout w' (List.mem_cons_of_mem _ hw') hin)
      (fun w' hw' => htr w' (List.mem_cons_of_mem _ hw')) h2
    refine ⟨hnn', ?_, ?_⟩
    · have hc := F.change pr
      by_cases hin : inS w = true
      · have := F.coal pr (htr w List.mem_cons_self hin)
        rw [List.filter_cons_of_pos hin, List.length_cons, Nat.cast_succ]
        linarith only [hc, hk', this]
      · have h0 := hout w List.mem_cons_self (Bool.eq_false_iff.2 hin)
        have := wsum_nonneg (fun b => pr b.1 && decide (topOf hop b.1 = some w)) bs1 F.nn
        rw [List.filter_cons_of_neg hin]
        linarith only [hc, hk', this, h0]
    · -- on the pile of `w` every ballot is active, and the pile goes from `tally` to `tally - q`
      have hc : active bs1 hop - active bs hop = _ := F.change (fun r => (topOf hop r).isSome)
      have e : (fun b : PBallot => (topOf hop b.1).isSome && decide (topOf hop b.1 = some w)) =
          fun b => decide (topOf hop b.1 = some w) := by
        funext b
        by_cases hl : topOf hop b.1 = some w <;> simp [hl]
      rw [e, F.ledTotal, ← tally_eq_wsum] at hc
      rw [hact', List.length_cons, Nat.cast_succ]
      linarith only [hc]

theorem goodTransfers_random (cfg : STVCfg) (hf : cfg.transfer = .random) : GoodTransfers cfg :=
  goodTransfers_of_facts cfg fun hop q sample bs bs' w _ hnn _ h =>
    applyTransfer_random_facts cfg hop q sample bs bs' w hf hnn h

/-- the part of `GoodTransfers` that involves no coalition, for the winners of an election round: weights
stay non-negative and the active weight drops by one threshold per winner -/
theorem GoodTransfers.elected {cfg : STVCfg} (hT : GoodTransfers cfg) {cands : List Cand} {q : Int} {ω : STVOracle}
    {rnd : Nat} {S : CState} {prev : RoundState} {recs : List RoundState} {g : Ranking}
    {tbs : List (List Cand × Ranking)} {bs' : List PBallot} (hq : 0 < q) (inv : StvInv cands S prev recs)
    (hl : Linked S prev) (hnn : ∀ b ∈ S.bs, 0 ≤ b.2)
    (habove : (prev.scores.filter (fun cs => decide ((q : Rat) ≤ cs.2))).isEmpty = false)
    (he : electChoice cfg q ω rnd S prev = .ok (g, tbs))
    (ha : applyTransfers cfg S.hopeful q (ω.sample rnd) g.flatten S.bs = .ok bs') :
    (∀ b ∈ bs', 0 ≤ b.2) ∧ active bs' S.hopeful = active S.bs S.hopeful - (q : Rat) * (g.flatten.length : Rat) := by
  obtain ⟨h1, _, h3⟩ := hT S.hopeful q (ω.sample rnd) (fun _ => false) (fun _ => false) g.flatten S.bs bs' hq hnn
    (electChoice_spec cfg q ω rnd S prev g tbs inv.hop_nodup inv.rem he).1
    (electChoice_ge cfg q ω rnd S prev g tbs hl inv.hop_nodup habove he)
    (fun _ _ _ => wsum_false _ _ (fun _ _ => rfl)) (fun _ _ h => nomatch h) ha
  exact ⟨h1, h3⟩

end VK
