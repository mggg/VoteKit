/-
  Re-scoring the profile an STV count holds after a round: every positional score of that profile is a
  weight-linear functional (`lsum`) of the count state, which only looks at the rankings with the candidates no
  longer hopeful struck (`scoreFromRankings_current`); for the first-place vector this gives back the tallies
  recorded for the round (`fpv_current`).
-/
import VK.Lemmas.LinEq
import VK.Lemmas.Condense

namespace VK

/-- closed form of `score_profile_from_rankings` on valid input -/
theorem scoreFromRankings_eq (p : Profile) (v : List Rat) (hv : validVector v = true)
    (hr : ∀ b ∈ p.ballots, b.ranking ≠ []) :
    scoreFromRankings p v = .ok (p.cands.map (fun c => (c, rsum (p.ballots.map (fun b =>
      ballotPoints (padVector v p.cands.length) (addMissingBallot p.cands b).ranking c * b.weight))))) := by
  have hany : p.ballots.any (fun b => b.ranking.isEmpty) = false :=
    List.any_eq_false.2 fun b hb => by simpa using hr b hb
  obtain ⟨sc, h⟩ : ∃ sc, scoreFromRankings p v = .ok sc :=
    ⟨_, by simp only [scoreFromRankings, addMissing, hv, hany, Bool.not_true, Bool.false_eq_true, if_false,
      Outcome.bind_ok, Outcome.pure_eq]; rfl⟩
  rw [h, C04_score_spec p v sc h]

theorem scoreFromRankings_congr (cands : List Cand) (bs bs' : List Ballot) (v : List Rat)
    (hv : validVector v = true) (hr : ∀ b ∈ bs, b.ranking ≠ []) (hr' : ∀ b ∈ bs', b.ranking ≠ [])
    (h : ∀ g : Ranking → Rat,
      rsum (bs.map fun b => g b.ranking * b.weight) = rsum (bs'.map fun b => g b.ranking * b.weight)) :
    scoreFromRankings { ballots := bs, cands := cands } v = scoreFromRankings { ballots := bs', cands := cands } v := by
  rw [scoreFromRankings_eq _ v hv hr, scoreFromRankings_eq _ v hv hr']
  congr 1
  apply List.map_congr_left
  intro c _
  congr 1
  exact h fun R => ballotPoints (padVector v cands.length) (addMissingBallot cands ⟨R, 0, []⟩).ranking c

def restr (hop : List Cand) (r : List Cand) : List Cand := r.filter (fun c => hop.contains c)

theorem topOf_restr (hop r : List Cand) : topOf hop (restr hop r) = topOf hop r := by
  unfold topOf restr
  rw [List.find?_filter]
  congr 1
  funext a
  cases hop.contains a <;> rfl

/-- a ranking-linear total of the ballots the count holds is a weight-linear total of the count state: a
ballot is held with its struck ranking, unless that is empty or its weight is 0 -/
theorem sum_currentBallots (g : Ranking → Rat) (bs : List PBallot) (hop : List Cand) (hnn : ∀ b ∈ bs, 0 ≤ b.2) :
    rsum ((currentBallots bs hop).map (fun b => g b.ranking * b.weight)) =
      lsum (fun r => if (restr hop r).isEmpty then 0 else g ((restr hop r).map fun c => [c])) bs := by
  unfold currentBallots lsum
  rw [rsum_filter_map_eq_ite, List.map_map]
  congr 1
  apply List.map_congr_left
  intro b hb
  simp only [Function.comp, List.isEmpty_map, restr]
  by_cases he : (b.1.filter fun c => hop.contains c).isEmpty = true
  · simp only [he, Bool.not_true, Bool.false_and, Bool.false_eq_true, if_false, if_true, zero_mul]
  · simp only [he, Bool.not_false, Bool.true_and, decide_eq_true_eq, Bool.false_eq_true, if_false]
    split
    · rfl
    · rw [le_antisymm (not_lt.1 ‹_›) (hnn b hb), mul_zero]

/-- points ranking `r` of the count state gives `c` once the profile is re-scored with vector `v'` -/
def curPoints (hop : List Cand) (v' : List Rat) (c : Cand) (r : List Cand) : Rat :=
  let fr := r.filter (fun x => hop.contains x)
  if fr.isEmpty then 0
  else ballotPoints v' (addMissingBallot hop { ranking := fr.map (fun x => [x]), weight := 0, scores := [] }).ranking c

theorem addMissingBallot_ranking (cands : List Cand) (b b' : Ballot) (h : b.ranking = b'.ranking) :
    (addMissingBallot cands b).ranking = (addMissingBallot cands b').ranking := by
  unfold addMissingBallot
  simp only [h]

theorem current_ranking_ne_nil (S : CState) : ∀ b ∈ (currentProfile S).ballots, b.ranking ≠ [] := by
  intro b hb
  obtain ⟨b0, hb0, hr, _⟩ := mem_condense_ranking _ b hb
  unfold currentBallots at hb0
  obtain ⟨_, hf⟩ := List.mem_filter.1 hb0
  simp only [Bool.and_eq_true, Bool.not_eq_true', List.isEmpty_eq_false_iff] at hf
  rw [← hr]; exact hf.1

theorem scoreFromRankings_current (S : CState) (v : List Rat) (hnn : ∀ b ∈ S.bs, 0 ≤ b.2) :
    scoreFromRankings (currentProfile S) v =
      if !validVector v then .raised .valueError
      else .ok (S.hopeful.map (fun c => (c, lsum (curPoints S.hopeful (padVector v S.hopeful.length) c) S.bs))) := by
  by_cases hv : validVector v = true
  · rw [scoreFromRankings_eq _ v hv (current_ranking_ne_nil S)]
    simp only [hv, Bool.not_true, Bool.false_eq_true, if_false]
    congr 1
    apply List.map_congr_left
    intro c _
    congr 1
    -- merging the held ballots does not change the total; each adds its missing candidates by its ranking alone
    have key := fun g : Ranking → Rat =>
      (sum_condense (fun k => g k.1) (currentBallots S.bs S.hopeful)).trans (sum_currentBallots g S.bs S.hopeful hnn)
    exact key fun R => ballotPoints (padVector v S.hopeful.length) (addMissingBallot S.hopeful ⟨R, 0, []⟩).ranking c
  · simp only [scoreFromRankings, hv, Bool.not_false, if_true]

theorem curPoints_fpv (hop : List Cand) (n : Nat) (c : Cand) :
    curPoints hop (fpvVector n) c = fun r => if topOf hop r = some c then 1 else 0 := by
  funext r
  rw [← topOf_restr, curPoints, restr]
  cases h : r.filter (fun x => hop.contains x) with
  | nil => rfl
  | cons x xs =>
    have hx : hop.contains x = true := (List.mem_filter.1 (h ▸ List.mem_cons_self)).2
    have ht : topOf hop (x :: xs) = some x := by rw [topOf, List.find?_cons_of_pos hx]
    obtain ⟨tail, hr⟩ : ∃ tail, (addMissingBallot hop ⟨(x :: xs).map (fun x => [x]), 0, []⟩).ranking = [x] :: tail := by
      simp only [addMissingBallot]
      split <;> exact ⟨_, rfl⟩
    simp only [List.isEmpty_cons, Bool.false_eq_true, if_false, hr, ballotPoints_fpv, ht, Option.some.injEq]

theorem fpv_current (S : CState) (hnn : ∀ b ∈ S.bs, 0 ≤ b.2) :
    firstPlaceVotes (currentProfile S) = .ok (tallies S.bs S.hopeful) := by
  unfold firstPlaceVotes
  rw [scoreFromRankings_current S _ hnn]
  simp only [validVector_fpv, Bool.not_true, Bool.false_eq_true, if_false, currentProfile, padVector_fpv,
    curPoints_fpv, ← tally_eq_lsum, tallies]

end VK
