/-
  Invariants of the STV count (`stvStep` / `stvLoop` / `stvRun`), for every
  configuration (quota, transfer rule, simultaneous or one-by-one, tiebreak) and every oracle.
-/
import VK.Model.STV
import VK.Lemmas.STVEqns
import VK.Lemmas.Elect
import VK.Lemmas.Ranking
import Mathlib.Data.List.Perm.Basic
import Mathlib.Data.List.Nodup
import Mathlib.Data.List.TakeWhile
import Mathlib.Data.List.Flatten

namespace VK

theorem tallies_keys (bs : List PBallot) (hopeful : List Cand) : (tallies bs hopeful).map (·.1) = hopeful :=
  keys_map hopeful _

theorem mem_tallies {bs : List PBallot} {hop : List Cand} {c : Cand} {v : Rat} :
    (c, v) ∈ tallies bs hop ↔ c ∈ hop ∧ tally bs hop c = v := by
  simp only [tallies, List.mem_map, Prod.mk.injEq]
  exact ⟨fun ⟨a, ha, hac, hv⟩ => hac ▸ ⟨ha, hv⟩, fun ⟨hc, hv⟩ => ⟨c, hc, rfl, hv⟩⟩

theorem tallies_nil (bs : List PBallot) : tallies bs [] = [] := rfl

theorem lookupScore_tallies (bs : List PBallot) (hop : List Cand) (c : Cand) (hc : c ∈ hop) :
    lookupScore (tallies bs hop) c = tally bs hop c :=
  lookupScore_map hop (fun c => tally bs hop c) c hc

/-- candidates recorded as elected / eliminated in a list of rounds -/
def electedIn (recs : List RoundState) : List Cand := (recs.flatMap (·.elected)).flatten
def eliminatedIn (recs : List RoundState) : List Cand := (recs.flatMap (·.eliminated)).flatten

theorem electedOf_eq_electedIn (st : States) : electedOf st = electedIn st := rfl

theorem electedIn_cons (r : RoundState) (recs : List RoundState) :
    electedIn (r :: recs) = r.elected.flatten ++ electedIn recs := by
  rw [electedIn, List.flatMap_cons, List.flatten_append]; rfl

theorem eliminatedIn_cons (r : RoundState) (recs : List RoundState) :
    eliminatedIn (r :: recs) = r.eliminated.flatten ++ eliminatedIn recs := by
  rw [eliminatedIn, List.flatMap_cons, List.flatten_append]; rfl

theorem electedIn_append (a b : List RoundState) : electedIn (a ++ b) = electedIn a ++ electedIn b := by
  simp [electedIn]

theorem eliminatedIn_append (a b : List RoundState) : eliminatedIn (a ++ b) = eliminatedIn a ++ eliminatedIn b := by
  simp [eliminatedIn]

theorem electedIn_map (l : List RoundState) (f : RoundState → RoundState) (hf : ∀ s, (f s).elected = s.elected) :
    electedIn (l.map f) = electedIn l := by
  simp [electedIn, List.flatMap_map, hf]

theorem eliminatedIn_map (l : List RoundState) (f : RoundState → RoundState) (hf : ∀ s, (f s).eliminated = s.eliminated) :
    eliminatedIn (l.map f) = eliminatedIn l := by
  simp [eliminatedIn, List.flatMap_map, hf]

theorem electedIn_reverse_perm (l : List RoundState) : (electedIn l.reverse).Perm (electedIn l) :=
  ((List.reverse_perm l).flatMap_right _).flatten

theorem eliminatedIn_reverse_perm (l : List RoundState) : (eliminatedIn l.reverse).Perm (eliminatedIn l) :=
  ((List.reverse_perm l).flatMap_right _).flatten

theorem electedIn_reverse_length (l : List RoundState) : (electedIn l.reverse).length = (electedIn l).length :=
  (electedIn_reverse_perm l).length_eq

/-- every recorded round (newest first) partitions the candidates into remaining / elected so far /
eliminated so far -/
def Good (cands : List Cand) : List RoundState → Prop
  | [] => True
  | r :: older => (r.remaining.flatten ++ electedIn (r :: older) ++ eliminatedIn (r :: older)).Perm cands ∧
      Good cands older

theorem Good_cons {cands : List Cand} {r : RoundState} {older : List RoundState} :
    Good cands (r :: older) ↔
      (r.remaining.flatten ++ electedIn (r :: older) ++ eliminatedIn (r :: older)).Perm cands ∧ Good cands older :=
  Iff.rfl

theorem Good_initial {cands : List Cand} {s : RoundState} (he : s.elected = []) (hx : s.eliminated = [])
    (h : s.remaining.flatten.Perm cands) : Good cands [s] :=
  ⟨by simpa [electedIn, eliminatedIn, he, hx] using h, trivial⟩

theorem Good_second {cands : List Cand} {s0 s1 : RoundState} (he : s0.elected = []) (hx : s0.eliminated = [])
    (h0 : s0.remaining.flatten.Perm cands)
    (h1 : (s1.remaining.flatten ++ s1.elected.flatten ++ s1.eliminated.flatten).Perm cands) :
    Good cands [s1, s0] :=
  ⟨by simpa [electedIn, eliminatedIn, he, hx] using h1, Good_initial he hx h0⟩

/-- what the loop maintains between the count state `S`, the last recorded round `prev` and the
rounds recorded so far (newest first) -/
structure StvInv (cands : List Cand) (S : CState) (prev : RoundState) (recs : List RoundState) : Prop where
  hop_nodup : S.hopeful.Nodup
  rem : prev.remaining.flatten.Perm S.hopeful
  count : S.nElected = (electedIn recs).length
  part : (S.hopeful ++ electedIn recs ++ eliminatedIn recs).Perm cands
  good : Good cands recs

theorem remaining_of_tallies (bs : List PBallot) (hop : List Cand) :
    (scoreToRanking (tallies bs hop)).flatten.Perm hop :=
  scoreToRanking_perm_keys (tallies_keys bs hop)

theorem electChoice_spec (cfg : STVCfg) (q : Int) (ω : STVOracle) (rnd : Nat) (S : CState) (prev : RoundState)
    (g : Ranking) (tbs : List (List Cand × Ranking)) (hn : S.hopeful.Nodup)
    (hrem : prev.remaining.flatten.Perm S.hopeful)
    (h : electChoice cfg q ω rnd S prev = .ok (g, tbs)) :
    g.flatten.Nodup ∧ ∀ c ∈ g.flatten, c ∈ S.hopeful := by
  have hrn : prev.remaining.flatten.Nodup := hrem.nodup_iff.2 hn
  -- either way the elected candidates are a sublist of the remaining ones up to order
  suffices hs : ∃ l, g.flatten.Sublist l ∧ l.Perm prev.remaining.flatten by
    obtain ⟨l, hsl, hl⟩ := hs
    exact ⟨hsl.nodup (hl.nodup_iff.2 hrn), fun c hc => hrem.mem_iff.1 (hl.mem_iff.1 (hsl.subset hc))⟩
  cases hsim : cfg.simultaneous with
  | true =>
    rw [electChoice_simultaneous hsim h]
    exact ⟨_, (List.takeWhile_sublist _).flatten, .refl _⟩
  | false =>
    obtain ⟨r, he, rfl⟩ := electChoice_onebyone hsim h
    have hmem : ∀ x ∈ prev.remaining, ∀ c ∈ x, c ∈ S.hopeful := fun x hx c hc =>
      hrem.mem_iff.1 (List.mem_flatten.2 ⟨x, hx, hc⟩)
    exact ⟨_, List.sublist_append_left _ _, (electFromRanking_count _ _ _ _ _ r (List.nodup_flatten.1 hrn).1
      (fun p hp => by cases hp; exact ⟨hn, hmem⟩) he).2⟩

theorem loserChoice_mem (init : Profile) (ω : STVOracle) (rnd : Nat) (lowest : List Cand) (c : Cand)
    (tbs : List (List Cand × Ranking)) (hl : lowest.Nodup) (hi : init.cands.Nodup) (hsub : ∀ x ∈ lowest, x ∈ init.cands)
    (h : loserChoice init ω rnd lowest = .ok (c, tbs)) : c ∈ lowest := by
  unfold loserChoice at h
  split at h
  · obtain ⟨t, ht, h⟩ := Outcome.bind_eq_ok.1 h
    split at h
    · next c' hlast =>
      cases h
      have hperm := (tiebreakSet_spec _ lowest (some init) .firstPlace t hl
        (fun p hp => by cases hp; exact ⟨hi, hsub⟩) ht).1
      exact hperm.mem_iff.1 (List.mem_flatten.2 ⟨[c], List.mem_of_getLast? hlast, List.mem_singleton_self c⟩)
    · cases h
  · split at h
    · cases h; exact List.mem_singleton_self c
    · cases h

/-- One recorded round keeps the invariant when the hopeful candidates of before split into those still
hopeful, those the round elects and those it eliminates. -/
theorem StvInv.step {cands : List Cand} {S S' : CState} {prev r : RoundState} {recs : List RoundState}
    (inv : StvInv cands S prev recs)
    (hsplit : (S'.hopeful ++ r.elected.flatten ++ r.eliminated.flatten).Perm S.hopeful)
    (hrem : r.remaining.flatten.Perm S'.hopeful)
    (hn : S'.nElected = S.nElected + r.elected.flatten.length) :
    StvInv cands S' r (r :: recs) := by
  have hpart : (S'.hopeful ++ electedIn (r :: recs) ++ eliminatedIn (r :: recs)).Perm cands := by
    refine .trans ?_ (((hsplit.append_right _).append_right _).trans inv.part)
    rw [electedIn_cons, eliminatedIn_cons]
    simp only [List.append_assoc]
    exact .append_left _ (.append_left _ (List.perm_append_comm_assoc _ _ _))
  exact ⟨(List.nodup_append.1 (List.nodup_append.1 (hsplit.nodup_iff.2 inv.hop_nodup)).1).1, hrem,
    by rw [electedIn_cons, List.length_append, hn, inv.count, Nat.add_comm],
    hpart, ((hrem.append_right _).append_right _).trans hpart, inv.good⟩

theorem StvInv.init {p : Profile} {sc0 : List (Cand × Rat)} (hc : p.cands.Nodup)
    (hk : sc0.map (·.1) = p.cands) :
    StvInv p.cands (stvInitState p) (initialState p.cands (some sc0)) [initialState p.cands (some sc0)] := by
  refine ⟨hc, scoreToRanking_perm_keys hk, rfl, ?_, Good_initial rfl rfl (scoreToRanking_perm_keys hk)⟩
  show (p.cands ++ [] ++ []).Perm p.cands
  rw [List.append_nil, List.append_nil]

theorem StvInv.hopeful_sub {cands : List Cand} {S : CState} {prev : RoundState} {recs : List RoundState}
    (inv : StvInv cands S prev recs) : ∀ c ∈ S.hopeful, c ∈ cands := fun _ hc =>
  inv.part.subset (List.mem_append_left _ (List.mem_append_left _ hc))

theorem loser_hopeful {init : Profile} {ω : STVOracle} {rnd : Nat} {S : CState} {prev : RoundState}
    {recs : List RoundState} {lowest : List Cand} {c : Cand} {tbs : List (List Cand × Ranking)}
    (hi : init.cands.Nodup) (inv : StvInv init.cands S prev recs)
    (hlast : prev.remaining.getLast? = some lowest)
    (hlc : loserChoice init ω rnd lowest = .ok (c, tbs)) :
    c ∈ lowest ∧ ∀ x ∈ lowest, x ∈ S.hopeful := by
  have hlm : lowest ∈ prev.remaining := List.mem_of_getLast? hlast
  have hlh : ∀ x ∈ lowest, x ∈ S.hopeful := fun x hx =>
    inv.rem.mem_iff.1 (List.mem_flatten.2 ⟨lowest, hlm, hx⟩)
  exact ⟨loserChoice_mem init ω rnd lowest c tbs
    ((List.nodup_flatten.1 (inv.rem.nodup_iff.2 inv.hop_nodup)).1 lowest hlm)
    hi (fun x hx => inv.hopeful_sub x (hlh x hx)) hlc, hlh⟩

/-- One step keeps the invariant, whatever branch is taken and whatever the transfer does; the hopeful set
never grows, and the seat counter moves by the number of candidates the round records as elected. -/
theorem stvStep_keeps {cfg : STVCfg} {init : Profile} {q : Int} {ω : STVOracle} {rnd : Nat}
    {S S' : CState} {prev r : RoundState} {recs : List RoundState}
    (hi : init.cands.Nodup) (inv : StvInv init.cands S prev recs)
    (h : stvStep cfg init q ω rnd S prev = .ok (S', r)) :
    StvInv init.cands S' r (r :: recs) ∧ (∀ c ∈ S'.hopeful, c ∈ S.hopeful) ∧
    S'.nElected = S.nElected + r.elected.flatten.length := by
  rcases stvStep_eq_ok.1 h with ⟨g, tbs, bs', -, he, -, rfl, rfl⟩ | ⟨-, -, rfl, rfl⟩ |
    ⟨-, -, lowest, c, tbs, hlast, hlc, rfl, rfl⟩
  · obtain ⟨hgn, hgs⟩ := electChoice_spec cfg q ω rnd S prev g tbs inv.hop_nodup inv.rem he
    have hsplit := filter_not_contains_perm _ _ inv.hop_nodup hgn hgs
    exact ⟨inv.step (by simpa only [List.flatten_nil, List.append_nil] using hsplit)
      (remaining_of_tallies _ _) rfl, fun c hc => (List.mem_filter.1 hc).1, rfl⟩
  · -- the remaining candidates fill the remaining seats
    exact ⟨inv.step (by simpa only [List.flatten_nil, List.append_nil, List.nil_append] using inv.rem)
        (.refl _) (by rw [inv.rem.length_eq]),
      fun c hc => absurd hc List.not_mem_nil, by rw [inv.rem.length_eq]⟩
  · obtain ⟨hcl, hlh⟩ := loser_hopeful hi inv hlast hlc
    have hsplit := filter_ne_perm _ c inv.hop_nodup (hlh c hcl)
    exact ⟨inv.step (by simpa only [List.flatten_nil, List.append_nil, List.flatten_cons] using hsplit)
      (remaining_of_tallies _ _) rfl, fun x hx => (List.mem_filter.1 hx).1, rfl⟩

theorem StvInv.next {cfg : STVCfg} {init : Profile} {q : Int} {ω : STVOracle} {rnd : Nat}
    {S S' : CState} {prev r : RoundState} {recs : List RoundState}
    (inv : StvInv init.cands S prev recs) (hi : init.cands.Nodup)
    (h : stvStep cfg init q ω rnd S prev = .ok (S', r)) : StvInv init.cands S' r (r :: recs) :=
  (stvStep_keeps hi inv h).1

theorem stvStep_inv (cfg : STVCfg) (init : Profile) (q : Int) (ω : STVOracle) (rnd : Nat)
    (S S' : CState) (prev r : RoundState) (recs : List RoundState)
    (hi : init.cands.Nodup) (hcs : ∀ c ∈ S.hopeful, c ∈ init.cands)
    (inv : StvInv init.cands S prev recs)
    (h : stvStep cfg init q ω rnd S prev = .ok (S', r)) :
    StvInv init.cands S' r (r :: recs) ∧ (∀ c ∈ S'.hopeful, c ∈ S.hopeful) ∧
    S'.nElected = S.nElected + r.elected.flatten.length :=
  stvStep_keeps hi inv h

/-- A property of (count state, last round, record) that every successful step keeps holds when the
loop finishes, and then the seat counter is at `m`. -/
theorem stvLoop_induct {cfg : STVCfg} {init : Profile} {q : Int} {ω : STVOracle}
    (I : CState → RoundState → List (RoundState × CState) → Prop)
    (step : ∀ S prev acc S' r, I S prev acc → S.nElected ≠ cfg.m →
      stvStep cfg init q ω (prev.round + 1) S prev = .ok (S', r) → I S' r ((r, S') :: acc))
    {fuel : Nat} {S : CState} {prev : RoundState} {acc tr : List (RoundState × CState)}
    (h0 : I S prev acc) (h : stvLoop cfg init q ω fuel S prev acc = .ok tr) :
    ∃ Sf prevf accf, tr = accf.reverse ∧ Sf.nElected = cfg.m ∧ I Sf prevf accf := by
  induction fuel generalizing S prev acc with
  | zero =>
    rcases stvLoop_ok h with ⟨hm, rfl⟩ | ⟨-, _, _, _, hn, -⟩
    · exact ⟨S, prev, acc, rfl, hm, h0⟩
    · cases hn
  | succ fuel ih =>
    rcases stvLoop_ok h with ⟨hm, rfl⟩ | ⟨hm, _, S', r, hn, hs, h'⟩
    · exact ⟨S, prev, acc, rfl, hm, h0⟩
    · cases hn; exact ih (step _ _ _ _ _ h0 hm hs) h'

theorem stvLoop_acc_subset {cfg : STVCfg} {init : Profile} {q : Int} {ω : STVOracle} {fuel : Nat} {S : CState}
    {prev : RoundState} {acc tr : List (RoundState × CState)} (h : stvLoop cfg init q ω fuel S prev acc = .ok tr) :
    ∀ x ∈ acc, x ∈ tr := by
  obtain ⟨-, -, accf, rfl, -, hf⟩ := stvLoop_induct (fun _ _ acc' => ∀ x ∈ acc, x ∈ acc')
    (fun _ _ _ _ _ ih _ _ x hx => List.mem_cons_of_mem _ (ih x hx)) (fun _ hx => hx) h
  exact fun x hx => List.mem_reverse.2 (hf x hx)

end VK
