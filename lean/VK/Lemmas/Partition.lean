/-
  Ways a list splits up to permutation: into the classes of a key, and (duplicate-free
  lists of candidates) into the members of a sub-collection, or one element, and the rest.
-/
import VK.Model.Basic
import Mathlib.Data.List.Perm.Basic
import Mathlib.Data.List.Nodup

namespace VK

theorem flatMap_filter_key_perm {α κ : Type} [DecidableEq κ] (key : α → κ) (l : List α) (vals : List κ)
    (hnd : vals.Nodup) (hcov : ∀ a ∈ l, key a ∈ vals) :
    (vals.flatMap (fun v => l.filter (fun a => key a = v))).Perm l := by
  induction vals generalizing l with
  | nil =>
    cases l with
    | nil => exact .nil
    | cons x xs => exact absurd (hcov x List.mem_cons_self) List.not_mem_nil
  | cons v vs ih =>
    obtain ⟨hv, hvs⟩ := List.nodup_cons.1 hnd
    -- the classes of the other keys do not see the elements of key `v`
    have hrest : ∀ u ∈ vs, l.filter (fun a => key a = u) =
        (l.filter (fun a => !decide (key a = v))).filter (fun a => key a = u) := by
      intro u hu
      rw [List.filter_filter]
      refine List.filter_congr fun a _ => ?_
      have huv : u ≠ v := fun e => hv (e ▸ hu)
      by_cases h : key a = u <;> simp [h, huv]
    rw [List.flatMap_cons, List.flatMap_congr hrest]
    refine ((ih _ hvs fun a ha => ?_).append_left _).trans (List.filter_append_perm _ l)
    obtain ⟨hal, hne⟩ := List.mem_filter.1 ha
    exact (List.mem_cons.1 (hcov a hal)).resolve_left (by simpa using hne)

theorem filter_contains_perm (cands s : List Cand) (hc : cands.Nodup) (hs : s.Nodup)
    (hsub : ∀ c ∈ s, c ∈ cands) : (cands.filter (fun c => s.contains c)).Perm s := by
  refine (List.perm_ext_iff_of_nodup (hc.filter _) hs).2 fun a => ?_
  rw [List.mem_filter, List.contains_iff_mem]
  exact ⟨And.right, fun h => ⟨hsub a h, h⟩⟩

theorem filter_contains_length (cands s : List Cand) (hc : cands.Nodup) (hs : s.Nodup)
    (hsub : ∀ c ∈ s, c ∈ cands) : (cands.filter (fun c => s.contains c)).length = s.length :=
  (filter_contains_perm cands s hc hs hsub).length_eq

theorem filter_not_contains_perm (h w : List Cand) (hh : h.Nodup) (hw : w.Nodup) (hsub : ∀ c ∈ w, c ∈ h) :
    (h.filter (fun c => !w.contains c) ++ w).Perm h :=
  .trans (.append_left _ (filter_contains_perm h w hh hw hsub).symm)
    (List.perm_append_comm.trans (List.filter_append_perm (fun c => w.contains c) h))

theorem perm_filter_of_append (all a b : List Cand) (hn : all.Nodup) (hp : (a ++ b).Perm all) :
    b.Perm (all.filter (fun c => !a.contains c)) := by
  have hnab : (a ++ b).Nodup := hp.nodup_iff.mpr hn
  have := filter_not_contains_perm all a hn (List.nodup_append.1 hnab).1 (fun c hc => hp.subset (List.mem_append_left _ hc))
  -- `all.filter (∉ a) ++ a ~ all ~ a ++ b`
  exact ((List.perm_append_left_iff a).1 ((List.perm_append_comm.trans this).trans hp.symm)).symm

theorem filter_ne_perm (h : List Cand) (c : Cand) (hh : h.Nodup) (hc : c ∈ h) :
    (h.filter (fun x => x != c) ++ [c]).Perm h := by
  have := filter_not_contains_perm h [c] hh (List.nodup_singleton c) fun x hx => List.mem_singleton.1 hx ▸ hc
  rwa [List.filter_congr (q := fun x => x != c) fun x _ => by
    by_cases hx : x = c <;> simp [hx]] at this

theorem filter_ne_length (l : List Cand) (c : Cand) (hn : l.Nodup) :
    (l.filter (fun x => x != c)).length + (if c ∈ l then 1 else 0) = l.length := by
  by_cases hc : c ∈ l
  · rw [if_pos hc, ← (filter_ne_perm l c hn hc).length_eq, List.length_append, List.length_singleton]
  · rw [if_neg hc, List.filter_eq_self.2 fun a ha => bne_iff_ne.2 fun (e : a = c) => hc (e ▸ ha)]; rfl

end VK
