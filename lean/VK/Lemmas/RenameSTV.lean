/-
  The STV count commutes with an injective renaming of the candidates: the initial state, tallies, the profile
  the count holds, the three transfer rules, the choice of winners and of the loser, one step.
-/
import VK.Lemmas.Rename
import VK.Lemmas.STVEqns
namespace VK

def renPB (π : Cand → Cand) (b : PBallot) : PBallot := (b.1.map π, b.2)
def renCS (π : Cand → Cand) (S : CState) : CState :=
  { bs := S.bs.map (renPB π), hopeful := S.hopeful.map π, nElected := S.nElected }
def renNeed (π : Cand → Cand) (need : List (List Cand × Nat)) : List (List Cand × Nat) :=
  need.map (fun kn => (kn.1.map π, kn.2))

/-- the renamed oracle: the same priorities and the same kept units, under the new names -/
structure RenOracle (π : Cand → Cand) (ω ω' : STVOracle) : Prop where
  pri : ∀ r, ω'.pri r = (ω.pri r).map π
  sample : ∀ r c, ω'.sample r (π c) = renNeed π (ω.sample r c)

section
variable (π : Cand → Cand)

@[simp] theorem renCS_bs (S : CState) : (renCS π S).bs = S.bs.map (renPB π) := rfl
@[simp] theorem renCS_hopeful (S : CState) : (renCS π S).hopeful = S.hopeful.map π := rfl
@[simp] theorem renCS_nElected (S : CState) : (renCS π S).nElected = S.nElected := rfl

theorem stvValidProfile_ren (p : Profile) : stvValidProfile (renP π p) = stvValidProfile p := by
  simp only [stvValidProfile, renP_ballots, List.all_map, Function.comp_def, renB_ranking, renR, List.isEmpty_map,
    List.length_map]

theorem total_ren (p : Profile) : (renP π p).total = p.total := by
  unfold Profile.total totalWeight renP
  simp only [List.map_map]; rfl

theorem stvInitState_ren (p : Profile) : stvInitState (renP π p) = renCS π (stvInitState p) := by
  simp only [stvInitState, renCS, renP, List.map_map, Function.comp_def, renPB, renB, flatten_renR]

theorem initialState_ren (cands : List Cand) (sc : List (Cand × Rat)) :
    initialState (cands.map π) (some (renSc π sc)) = renRS π (initialState cands (some sc)) := by
  simp only [initialState, renRS, scoreToRanking_ren, renR, List.map_nil]

variable (hπ : Function.Injective π)
include hπ

theorem topOf_ren (h r : List Cand) : topOf (h.map π) (r.map π) = (topOf h r).map π := by
  simp only [topOf, List.find?_map, Function.comp_def, contains_map_inj π hπ]

theorem topOf_ren_iff (h r : List Cand) (w : Cand) :
    topOf (h.map π) (r.map π) = some (π w) ↔ topOf h r = some w := by
  rw [topOf_ren π hπ]; exact (Option.map_injective hπ).eq_iff (b := some w)

theorem led_ren (h : List Cand) (w : Cand) (bs : List PBallot) :
    (bs.map (renPB π)).filter (fun b => decide (topOf (h.map π) b.1 = some (π w))) =
      (bs.filter (fun b => decide (topOf h b.1 = some w))).map (renPB π) :=
  filter_map_of (renPB π) (fun b => decide_eq_decide.mpr (topOf_ren_iff π hπ h b.1 w)) bs

theorem tally_ren (bs : List PBallot) (h : List Cand) (c : Cand) :
    tally (bs.map (renPB π)) (h.map π) (π c) = tally bs h c := by
  unfold tally
  rw [led_ren π hπ, List.map_map]
  rfl

theorem tallies_ren (bs : List PBallot) (h : List Cand) :
    tallies (bs.map (renPB π)) (h.map π) = renSc π (tallies bs h) := by
  simp only [tallies, renSc, List.map_map, Function.comp_def, tally_ren π hπ]

theorem currentBallots_ren (bs : List PBallot) (h : List Cand) :
    currentBallots (bs.map (renPB π)) (h.map π) = (currentBallots bs h).map (renB π) := by
  simp only [currentBallots, List.map_map, List.filter_map, Function.comp_def, renPB, renB, renR, renSc,
    filter_contains_map π hπ, List.isEmpty_map, List.map_cons, List.map_nil]

theorem currentProfile_ren (S : CState) : currentProfile (renCS π S) = renP π (currentProfile S) := by
  unfold currentProfile renCS renP
  simp only [currentBallots_ren π hπ, condense_ren π hπ]

theorem contRanking_ren (h : List Cand) (w : Cand) (r : List Cand) :
    contRanking (h.map π) (π w) (r.map π) = (contRanking h w r).map π :=
  filter_map_of π (fun c => by rw [contains_map_inj π hπ, bne_map_inj π hπ]) r

omit hπ in
@[simp] theorem renNeed_cons (a : List Cand × Nat) (need : List (List Cand × Nat)) :
    renNeed π (a :: need) = (a.1.map π, a.2) :: renNeed π need := rfl

theorem takeUnits_ren (need : List (List Cand × Nat)) (k : List Cand) (avail : Nat) :
    takeUnits (renNeed π need) (k.map π) avail = Prod.map id (renNeed π) (takeUnits need k avail) := by
  induction need with
  | nil => rfl
  | cons a rest ih =>
    obtain ⟨k', n⟩ := a
    simp only [renNeed_cons, takeUnits, (map_inj_list π hπ).eq_iff, ih, apply_ite (Prod.map _ _), Prod.map_apply,
      id_eq, Prod.map_fst, Prod.map_snd]

theorem randomAssign_ren (h : List Cand) (w : Cand) (bs : List PBallot) (need : List (List Cand × Nat)) :
    randomAssign (h.map π) (π w) (bs.map (renPB π)) (renNeed π need) =
      Prod.map (List.map (renPB π)) (renNeed π) (randomAssign h w bs need) := by
  induction bs generalizing need with
  | nil => rfl
  | cons b rest ih =>
    simp only [List.map_cons, randomAssign, renPB, topOf_ren_iff π hπ, contRanking_ren π hπ, List.isEmpty_map,
      takeUnits_ren π hπ, Prod.map_fst, Prod.map_snd, id_eq, ih, apply_ite (Prod.map _ _), Prod.map_apply]

theorem applyTransfer_ren (cfg : STVCfg) (h : List Cand) (q : Int) (sample : List (List Cand × Nat))
    (bs : List PBallot) (w : Cand) :
    applyTransfer cfg (h.map π) q (renNeed π sample) (bs.map (renPB π)) (π w) =
      (applyTransfer cfg h q sample bs w).map (List.map (renPB π)) := by
  unfold applyTransfer
  cases cfg.transfer with
  | full => rfl
  | fractional =>
    simp only [tally_ren π hπ]
    refine Outcome.ite_map rfl (congrArg Outcome.ok ?_)
    simp only [List.map_map, Function.comp_def, apply_ite (renPB π)]
    simp only [renPB, topOf_ren_iff π hπ]
  | random =>
    -- the parts first, while `renNeed π sample` is still folded; then the counts over the renamed sample
    simp only [tally_ren π hπ, led_ren π hπ, List.any_map, List.filter_map, List.map_map, Function.comp_def, renPB,
      contRanking_ren π hπ, List.isEmpty_map, randomAssign_ren π hπ]
    simp only [renNeed, Prod.map_fst, Prod.map_snd, List.map_map, List.any_map, Function.comp_def, List.isEmpty_map]
    exact Outcome.ite_map rfl (Outcome.ite_map rfl (Outcome.ite_map rfl (Outcome.ite_map rfl rfl)))

theorem applyTransfers_ren (cfg : STVCfg) (h : List Cand) (q : Int)
    (sample sample' : Cand → List (List Cand × Nat)) (hs : ∀ c, sample' (π c) = renNeed π (sample c))
    (ws : List Cand) (bs : List PBallot) :
    applyTransfers cfg (h.map π) q sample' (ws.map π) (bs.map (renPB π)) =
      (applyTransfers cfg h q sample ws bs).map (List.map (renPB π)) := by
  induction ws generalizing bs with
  | nil => rfl
  | cons w rest ih =>
    rw [List.map_cons, applyTransfers_cons, applyTransfers_cons, hs]
    exact Outcome.bind_map_comm _ (applyTransfer_ren π hπ cfg h q (sample w) bs w) fun bs' _ => ih bs'

def renChoice (π : Cand → Cand) (x : Ranking × List (List Cand × Ranking)) : Ranking × List (List Cand × Ranking) :=
  (renR π x.1, x.2.map (renTb π))

theorem electChoice_ren (cfg : STVCfg) (q : Int) (ω ω' : STVOracle) (hω : RenOracle π ω ω') (rnd : Nat)
    (S : CState) (prev : RoundState) :
    electChoice cfg q ω' rnd (renCS π S) (renRS π prev) = (electChoice cfg q ω rnd S prev).map (renChoice π) := by
  unfold electChoice
  split
  · simp only [Outcome.pure_eq, Outcome.map_ok, renChoice, List.map_nil, renRS_remaining, renRS_scores, renR,
      List.takeWhile_map, Function.comp_def]
    congr 4
    funext g
    cases g with
    | nil => rfl
    | cons c rest => simp only [List.map_cons, lookupScore_ren π hπ]
  · rw [renRS_remaining, currentProfile_ren π hπ, hω.pri]
    refine Outcome.bind_map_comm _ (electFromRanking_ren π hπ _ _ 1 (some _) _) fun r _ => ?_
    simp only [Outcome.pure_eq, Outcome.map_ok, renChoice, renER]
    congr 2
    cases r.tiebreak <;> rfl

def renLoser (π : Cand → Cand) (x : Cand × List (List Cand × Ranking)) : Cand × List (List Cand × Ranking) :=
  (π x.1, x.2.map (renTb π))

theorem loserChoice_ren (init : Profile) (ω ω' : STVOracle) (hω : RenOracle π ω ω') (rnd : Nat) (lowest : List Cand) :
    loserChoice (renP π init) ω' rnd (lowest.map π) = (loserChoice init ω rnd lowest).map (renLoser π) := by
  unfold loserChoice
  rw [List.length_map, hω.pri]
  split
  · refine Outcome.bind_map_comm _ (tiebreakSet_ren π hπ _ lowest (some init) .firstPlace) fun t _ => ?_
    rw [renR, List.getLast?_map]
    obtain _ | ⟨_ | ⟨c, _ | _⟩⟩ := t.getLast? <;> rfl
  · obtain _ | ⟨c, _ | _⟩ := lowest <;> rfl

def renStep (π : Cand → Cand) (x : CState × RoundState) : CState × RoundState := (renCS π x.1, renRS π x.2)

theorem stvStep_ren (cfg : STVCfg) (init : Profile) (q : Int) (ω ω' : STVOracle) (hω : RenOracle π ω ω') (rnd : Nat)
    (S : CState) (prev : RoundState) :
    stvStep cfg (renP π init) q ω' rnd (renCS π S) (renRS π prev) =
      (stvStep cfg init q ω rnd S prev).map (renStep π) := by
  unfold stvStep
  -- the three tests (somebody at the threshold, seats = hopefuls, a lowest group) read the same on the renamed state
  simp only [renRS_scores, renRS_remaining, renCS_hopeful, renCS_bs, renCS_nElected, renSc, renR, List.filter_map,
    List.isEmpty_map, List.length_map, List.getLast?_map, Function.comp_def]
  refine Outcome.ite_map ?_ (Outcome.ite_map ?_ ?_)
  · refine Outcome.bind_map_comm _ (electChoice_ren π hπ cfg q ω ω' hω rnd S prev) fun ⟨eg, tbs⟩ _ => ?_
    simp only [renChoice, flatten_renR]
    refine Outcome.bind_map_comm _ (applyTransfers_ren π hπ cfg _ q _ _ (hω.sample rnd) _ _) fun bs' _ => ?_
    simp only [Outcome.pure_eq, Outcome.map_ok, renStep, renCS, renRS, contains_map_inj π hπ,
      tallies_ren π hπ, scoreToRanking_ren π, List.length_map, List.map_nil, renR]
  · simp only [Outcome.pure_eq, Outcome.map_ok, renStep, renCS, renRS, List.map_map, List.map_nil, renR, renSc]
    rfl
  · cases prev.remaining.getLast? with
    | none => rfl
    | some lowest =>
      refine Outcome.bind_map_comm _ (loserChoice_ren π hπ init ω ω' hω rnd lowest) fun ⟨loser, tbs⟩ _ => ?_
      simp only [Outcome.pure_eq, Outcome.map_ok, renLoser, renStep, renCS, renRS, bne_map_inj π hπ, tallies_ren π hπ,
        scoreToRanking_ren π, renR, List.map_cons, List.map_nil]

end
end VK
