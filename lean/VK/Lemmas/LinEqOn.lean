/-
  The coarser equivalence the random (whole-ballot) transfer needs: two ballot lists that give the same total
  weight to every ranking once the candidates no longer hopeful are struck. `LinEq` is too fine for the random
  rule: which of two ballots with the same continuing ranking keeps its vote depends on the order of the ballots,
  but rankings that differ only in candidates already elected or eliminated never behave differently again.
-/
import VK.Lemmas.LinEq
import VK.Lemmas.Rescore
import VK.Lemmas.RandomTransfer

namespace VK

def LinEqOn (hop : List Cand) (a b : List PBallot) : Prop :=
  ∀ f : List Cand → Rat, lsum (fun r => f (restr hop r)) a = lsum (fun r => f (restr hop r)) b

theorem LinEq.on {a b : List PBallot} (h : LinEq a b) (hop : List Cand) : LinEqOn hop a b :=
  fun f => h (fun r => f (restr hop r))

theorem LinEqOn.refl (hop : List Cand) (a : List PBallot) : LinEqOn hop a a := fun _ => rfl

theorem LinEqOn.apply {hop : List Cand} {a b : List PBallot} (h : LinEqOn hop a b) (g : List Cand → Rat)
    (hg : ∀ r, g r = g (restr hop r)) : lsum g a = lsum g b := by
  have e : (fun r => g (restr hop r)) = g := funext fun r => (hg r).symm
  exact e ▸ h g

theorem restr_mono (hop hop' r : List Cand) (hsub : ∀ c, hop'.contains c = true → hop.contains c = true) :
    restr hop' (restr hop r) = restr hop' r := by
  unfold restr
  rw [List.filter_filter]
  exact List.filter_congr fun c _ => Bool.and_eq_left_iff_imp.2 (hsub c)

theorem restr_idem (hop r : List Cand) : restr hop (restr hop r) = restr hop r :=
  restr_mono hop hop r fun _ h => h

theorem contRanking_restr (hop : List Cand) (w : Cand) (r : List Cand) :
    contRanking hop w (restr hop r) = contRanking hop w r := by
  unfold contRanking restr
  rw [List.filter_filter]
  apply List.filter_congr
  intro c _
  cases hop.contains c <;> simp

theorem LinEqOn.mono {hop hop' : List Cand} {a b : List PBallot} (h : LinEqOn hop a b)
    (hsub : ∀ c, hop'.contains c = true → hop.contains c = true) : LinEqOn hop' a b :=
  fun f => h.apply _ fun r => by rw [restr_mono hop hop' r hsub]

theorem LinEqOn.wsum {hop : List Cand} {a b : List PBallot} (h : LinEqOn hop a b) (pr : List Cand → Bool)
    (hpr : ∀ r, pr r = pr (restr hop r)) :
    VK.wsum (fun x => pr x.1) a = VK.wsum (fun x => pr x.1) b := by
  rw [wsum_eq_lsum, wsum_eq_lsum]
  exact h.apply _ fun r => by rw [hpr r]

theorem LinEqOn.tally {hop : List Cand} {a b : List PBallot} (h : LinEqOn hop a b) (c : Cand) :
    VK.tally a hop c = VK.tally b hop c := by
  rw [tally_eq_lsum, tally_eq_lsum]
  exact h.apply _ fun r => by rw [topOf_restr]

theorem LinEqOn.tallies {hop : List Cand} {a b : List PBallot} (h : LinEqOn hop a b) :
    VK.tallies a hop = VK.tallies b hop := by
  unfold VK.tallies
  simp only [h.tally]

theorem LinEqOn.tallies_sub {hop hop' : List Cand} {a b : List PBallot} (h : LinEqOn hop a b)
    (hsub : ∀ c, hop'.contains c = true → hop.contains c = true) : VK.tallies a hop' = VK.tallies b hop' :=
  (h.mono hsub).tallies

theorem LinEqOn.scaleLed {hop : List Cand} {a b : List PBallot} (h : LinEqOn hop a b) (w : Cand) (x : Rat) :
    LinEqOn hop (VK.scaleLed hop w x a) (VK.scaleLed hop w x b) := by
  intro f
  rw [lsum_scaleLed, lsum_scaleLed]
  exact h.apply _ fun r => by rw [restr_idem, topOf_restr]

theorem LinEqOn.zero (hop : List Cand) (a b : List PBallot) :
    LinEqOn hop (a.map (fun x => (x.1, (0 : Rat)))) (b.map (fun x => (x.1, (0 : Rat)))) :=
  (LinEq.zero a b).on hop

theorem randomAssign_fst (hop : List Cand) (w : Cand) (bs : List PBallot) (need : List (List Cand × Nat)) :
    (randomAssign hop w bs need).1.map (·.1) = bs.map (·.1) := by
  induction bs generalizing need with
  | nil => rfl
  | cons b rest ih => rw [randomAssign_cons, List.map_cons, ih, List.map_cons]

/-- whole votes the winner's ballots with continuing ranking `k` can hand on -/
def classAvail (hop : List Cand) (w : Cand) : List PBallot → List Cand → Nat
  | [], _ => 0
  | b :: rest, k =>
    (if topOf hop b.1 = some w ∧ (contRanking hop w b.1).isEmpty = false ∧ contRanking hop w b.1 = k
     then b.2.floor.toNat else 0) + classAvail hop w rest k

/-- what is left of the requested units once every class has handed on what it can: the first entry for a
ranking absorbs the class, later entries for the same ranking are never served -/
def settle (T : List Cand → Nat) : List (List Cand × Nat) → List (List Cand × Nat)
  | [] => []
  | (k, n) :: rest => (k, n - min n (T k)) :: settle (fun k' => if k' = k then 0 else T k') rest

theorem settle_cons (T : List Cand → Nat) (k : List Cand) (n : Nat) (rest : List (List Cand × Nat)) :
    settle T ((k, n) :: rest) = (k, n - T k) :: settle (fun k' => if k' = k then 0 else T k') rest := by
  rw [settle, ← Nat.sub_eq_sub_min]

theorem settle_take (T : List Cand → Nat) (k : List Cand) (a : Nat) (need : List (List Cand × Nat)) :
    settle (fun k' => (if k' = k then a else 0) + T k') need = settle T (takeUnits need k a).2 := by
  induction need generalizing T with
  | nil => rfl
  | cons e rest ih =>
    obtain ⟨k0, n⟩ := e
    rw [takeUnits, settle_cons]
    split
    · subst k0
      rw [settle_cons, ← Nat.sub_eq_sub_min, Nat.sub_add_eq]
      congr 2
      funext k'
      split
      · rfl
      · exact Nat.zero_add _
    · rename_i hk
      rw [settle_cons, ← ih, Nat.zero_add]
      congr 2
      funext k'
      split
      · subst k'; rw [if_neg hk]
      · rfl

theorem settle_zero (need : List (List Cand × Nat)) : settle (fun _ => 0) need = need := by
  induction need with
  | nil => rfl
  | cons e rest ih =>
    rw [settle_cons, Nat.sub_zero]
    simp only [ite_self, ih]

/-- what a ballot adds to the class totals is what `serve` takes off the requests: nothing, or (`settle_take`)
the whole votes of a transferable ballot of the winner -/
theorem settle_serve (hop : List Cand) (w : Cand) (b : PBallot) (T : List Cand → Nat) (need : List (List Cand × Nat)) :
    settle (fun k => (if topOf hop b.1 = some w ∧ (contRanking hop w b.1).isEmpty = false ∧
      contRanking hop w b.1 = k then b.2.floor.toNat else 0) + T k) need = settle T (serve hop w b need).2 := by
  rw [serve]
  split
  · rename_i hled
    split
    · rename_i hemp
      simp only [hled, hemp, Bool.true_eq_false, false_and, and_false, if_false, Nat.zero_add]
    · rename_i hemp
      rw [← settle_take]
      simp only [hled, Bool.not_eq_true] at hemp ⊢
      simp only [hemp, true_and, eq_comm]
  · rename_i hled
    simp only [hled, false_and, if_false, Nat.zero_add]

theorem randomAssign_need (hop : List Cand) (w : Cand) (bs : List PBallot) (need : List (List Cand × Nat)) :
    (randomAssign hop w bs need).2 = settle (classAvail hop w bs) need := by
  induction bs generalizing need with
  | nil => exact (settle_zero need).symm
  | cons b rest ih => rw [randomAssign_cons, ih, ← settle_serve]; rfl

theorem settle_keys (T : List Cand → Nat) (need : List (List Cand × Nat)) :
    (settle T need).map (·.1) = need.map (·.1) := by
  induction need generalizing T with
  | nil => rfl
  | cons e rest ih => rw [settle_cons, List.map_cons, ih, List.map_cons]

/-- the requested units, weighted by `φ` of their ranking -/
def needSum (φ : List Cand → Rat) (need : List (List Cand × Nat)) : Rat := rsum (need.map (fun kn => φ kn.1 * (kn.2 : Rat)))

theorem needSum_cons (φ : List Cand → Rat) (k : List Cand) (n : Nat) (rest : List (List Cand × Nat)) :
    needSum φ ((k, n) :: rest) = φ k * (n : Rat) + needSum φ rest := rfl

theorem needSum_take (φ : List Cand → Rat) (need : List (List Cand × Nat)) (k : List Cand) (a : Nat) :
    needSum φ (takeUnits need k a).2 + φ k * ((takeUnits need k a).1 : Rat) = needSum φ need := by
  induction need with
  | nil => exact (congrArg (_ + ·) (mul_zero _)).trans (add_zero _)
  | cons e rest ih =>
    obtain ⟨k0, n⟩ := e
    rw [takeUnits]
    split
    · subst k0
      rw [needSum_cons, needSum_cons, add_right_comm, ← mul_add, ← Nat.cast_add, Nat.sub_add_cancel (Nat.min_le_left n a)]
    · rw [needSum_cons, needSum_cons, add_assoc, ih]

theorem needSum_serve (hop : List Cand) (w : Cand) (F φ : List Cand → Rat) (b : PBallot) (need : List (List Cand × Nat))
    (hF : topOf hop b.1 = some w → F b.1 = φ (contRanking hop w b.1)) :
    F b.1 * (serve hop w b need).1 + needSum φ (serve hop w b need).2 =
      (if topOf hop b.1 = some w then 0 else F b.1) * b.2 + needSum φ need := by
  rw [serve]
  split
  · rename_i hled
    split
    · rw [mul_zero, zero_mul]
    · rw [hF hled, zero_mul, zero_add, add_comm, needSum_take]
  · rfl

/-- What the winner's ballots carry afterwards and the requests still open add up to what was requested; the
ballots not counted for the winner keep their weight. `F` is any ranking functional that on the winner's
transferable ballots only looks at the continuing ranking (`φ`). -/
theorem randomAssign_lsum_needSum (hop : List Cand) (w : Cand) (F : List Cand → Rat) (φ : List Cand → Rat)
    (bs : List PBallot) (need : List (List Cand × Nat))
    (hF : ∀ b ∈ bs, topOf hop b.1 = some w → F b.1 = φ (contRanking hop w b.1)) :
    lsum F (randomAssign hop w bs need).1 + needSum φ (randomAssign hop w bs need).2 =
      lsum (fun r => if topOf hop r = some w then 0 else F r) bs + needSum φ need := by
  induction bs generalizing need with
  | nil => rfl
  | cons b rest ih =>
    rw [randomAssign_cons, lsum_cons, lsum_cons, add_assoc, ih _ fun x hx => hF x (List.mem_cons_of_mem _ hx),
      add_left_comm, needSum_serve hop w F φ b need (hF b List.mem_cons_self), add_left_comm, add_assoc]

/-- weighted number of units served between two states of the request list (same rankings, entry by entry) -/
def gain (φ : List Cand → Rat) : List (List Cand × Nat) → List (List Cand × Nat) → Rat
  | (k, n) :: r, (_, n') :: r' => φ k * ((n : Rat) - (n' : Rat)) + gain φ r r'
  | _, _ => 0

theorem gain_eq_needSum (φ : List Cand → Rat) (need need' : List (List Cand × Nat))
    (hk : need'.map (·.1) = need.map (·.1)) : gain φ need need' = needSum φ need - needSum φ need' := by
  induction need generalizing need' with
  | nil =>
    cases need' with
    | nil => exact (sub_self _).symm
    | cons _ _ => cases hk
  | cons e rest ih =>
    cases need' with
    | nil => cases hk
    | cons e' rest' =>
      obtain ⟨k, n⟩ := e
      obtain ⟨k', n'⟩ := e'
      simp only [List.map_cons, List.cons.injEq] at hk
      obtain ⟨rfl, hk⟩ := hk
      rw [gain, ih rest' hk, needSum_cons, needSum_cons, mul_sub, add_sub_add_comm]

theorem randomAssign_lsum (hop : List Cand) (w : Cand) (F : List Cand → Rat) (φ : List Cand → Rat)
    (bs : List PBallot) (need : List (List Cand × Nat))
    (hF : ∀ b ∈ bs, topOf hop b.1 = some w → F b.1 = φ (contRanking hop w b.1)) :
    lsum F (randomAssign hop w bs need).1 =
      lsum (fun r => if topOf hop r = some w then 0 else F r) bs + gain φ need (randomAssign hop w bs need).2 := by
  rw [gain_eq_needSum φ _ _ ((randomAssign_need hop w bs need).symm ▸ settle_keys _ need), ← add_sub_assoc,
    ← randomAssign_lsum_needSum hop w F φ bs need hF, add_sub_cancel_right]

/-- whole, non-negative weights (what the random rule requires and keeps) -/
def IntW (bs : List PBallot) : Prop := ∀ b ∈ bs, isIntRat b.2 = true ∧ 0 ≤ b.2
def NodupR (bs : List PBallot) : Prop := ∀ b ∈ bs, b.1.Nodup

theorem serve_intW (hop : List Cand) (w : Cand) (b : PBallot) (need : List (List Cand × Nat))
    (hb : isIntRat b.2 = true ∧ 0 ≤ b.2) : isIntRat (serve hop w b need).1 = true ∧ 0 ≤ (serve hop w b need).1 := by
  rw [serve]
  split
  · split
    · exact ⟨rfl, le_refl _⟩
    · exact ⟨isIntRat_nat _, Nat.cast_nonneg _⟩
  · exact hb

theorem randomAssign_intW (hop : List Cand) (w : Cand) (bs : List PBallot) (need : List (List Cand × Nat))
    (hi : IntW bs) : IntW (randomAssign hop w bs need).1 := by
  induction bs generalizing need with
  | nil => exact fun _ hb => nomatch hb
  | cons b rest ih =>
    rw [randomAssign_cons]
    exact List.forall_mem_cons.2 ⟨serve_intW hop w b need (hi b List.mem_cons_self),
      ih _ fun x hx => hi x (List.mem_cons_of_mem _ hx)⟩

theorem restr_led (hop : List Cand) (w : Cand) (r : List Cand) (hnd : r.Nodup) (h : topOf hop r = some w) :
    restr hop r = w :: contRanking hop w r := by
  obtain ⟨hw, as, bs, rfl, has⟩ := List.find?_eq_some_iff_append.1 h
  have hbs : w ∉ bs := fun hm => (List.nodup_cons.1 (List.nodup_append.1 hnd).2.1).1 hm
  have e1 : ∀ p : Cand → Bool, (∀ a ∈ as, p a = true → hop.contains a = true) → as.filter p = [] := fun p hp =>
    List.filter_eq_nil_iff.2 fun a ha hpa => by
      have := has a ha
      rw [hp a ha hpa] at this
      cases this
  unfold restr contRanking
  rw [List.filter_append, List.filter_append, e1 _ fun _ _ h => h,
    e1 _ fun _ _ h => (Bool.and_eq_true_iff.1 h).1, List.filter_cons_of_pos hw,
    List.filter_cons_of_neg (by simp), List.nil_append, List.nil_append]
  congr 1
  apply List.filter_congr
  intro c hc
  have : c ≠ w := fun e => hbs (e ▸ hc)
  simp [this]

theorem classAvail_eq_lsum (hop : List Cand) (w : Cand) (bs : List PBallot) (k : List Cand) (hi : IntW bs) :
    ((classAvail hop w bs k : Nat) : Rat) =
      lsum (fun r => if topOf hop r = some w ∧ (contRanking hop w r).isEmpty = false ∧ contRanking hop w r = k
        then 1 else 0) bs := by
  induction bs with
  | nil => simp [classAvail, lsum_nil]
  | cons b rest ih =>
    have hb := hi b List.mem_cons_self
    rw [classAvail, lsum_cons, ← ih fun x hx => hi x (List.mem_cons_of_mem _ hx), Nat.cast_add]
    congr 1
    split
    · rw [floor_toNat_int b.2 hb.1 hb.2, one_mul]
    · rw [Nat.cast_zero, zero_mul]

theorem classAvail_lineqOn (hop : List Cand) (w : Cand) (a b : List PBallot) (h : LinEqOn hop a b)
    (ia : IntW a) (ib : IntW b) (k : List Cand) : classAvail hop w a k = classAvail hop w b k := by
  have e : ((classAvail hop w a k : Nat) : Rat) = ((classAvail hop w b k : Nat) : Rat) := by
    rw [classAvail_eq_lsum hop w a k ia, classAvail_eq_lsum hop w b k ib]
    exact h.apply _ fun r => by rw [topOf_restr, contRanking_restr]
  exact_mod_cast e

/-- two ballot lists the random rule cannot tell apart -/
structure GoodPair (hop : List Cand) (a b : List PBallot) : Prop where
  eq : LinEqOn hop a b
  ia : IntW a
  ib : IntW b
  na : NodupR a
  nb : NodupR b

def RelBsOn (hop : List Cand) : Outcome (List PBallot) → Outcome (List PBallot) → Prop
  | .ok a, .ok b => GoodPair hop a b
  | .raised e, .raised e' => e = e'
  | .oracleMismatch, .oracleMismatch => True
  | .outOfFuel, .outOfFuel => True
  | _, _ => False

theorem relBsOn_iff (hop : List Cand) (x y : Outcome (List PBallot)) :
    RelBsOn hop x y ↔ Outcome.Rel (GoodPair hop) x y := by
  cases x <;> cases y <;> exact Iff.rfl

theorem nodupR_of_fst (a a' : List PBallot) (h : a'.map (·.1) = a.map (·.1)) (na : NodupR a) : NodupR a' := by
  intro b hb
  have : b.1 ∈ a'.map (·.1) := List.mem_map_of_mem hb
  rw [h] at this
  obtain ⟨b0, hb0, e⟩ := List.mem_map.1 this
  rw [← e]; exact na b0 hb0

/-- once every request is met, the random assignment keeps two lists equivalent -/
theorem randomAssign_goodPair {hop : List Cand} {a b : List PBallot} (h : GoodPair hop a b) (w : Cand)
    (need : List (List Cand × Nat)) (hneed : (randomAssign hop w a need).2 = (randomAssign hop w b need).2)
    (hz : ∀ kn ∈ (randomAssign hop w a need).2, kn.2 = 0) :
    GoodPair hop (randomAssign hop w a need).1 (randomAssign hop w b need).1 := by
  refine ⟨fun f => ?_, randomAssign_intW hop w a need h.ia, randomAssign_intW hop w b need h.ib,
    nodupR_of_fst a _ (randomAssign_fst hop w a need) h.na, nodupR_of_fst b _ (randomAssign_fst hop w b need) h.nb⟩
  -- on a ballot counted for `w` the restricted ranking is `w` followed by the continuing ranking
  have hF : ∀ l : List PBallot, NodupR l → ∀ x ∈ l, topOf hop x.1 = some w →
      f (restr hop x.1) = f (w :: contRanking hop w x.1) :=
    fun l hl x hx hled => by rw [restr_led hop w x.1 (hl x hx) hled]
  have ea := randomAssign_lsum_needSum hop w (fun r => f (restr hop r)) (fun k => f (w :: k)) a need (hF a h.na)
  have eb := randomAssign_lsum_needSum hop w (fun r => f (restr hop r)) (fun k => f (w :: k)) b need (hF b h.nb)
  have e0 : needSum (fun k => f (w :: k)) (randomAssign hop w a need).2 = 0 := by
    unfold needSum
    exact rsum_zeros _ fun x hx => by
      obtain ⟨kn, hkn, rfl⟩ := List.mem_map.1 hx
      rw [hz kn hkn, Nat.cast_zero, mul_zero]
  rw [← hneed, e0, add_zero] at eb
  rw [e0, add_zero] at ea
  rw [ea, eb]
  congr 1
  exact h.eq.apply _ fun r => by rw [topOf_restr, restr_idem]

theorem applyTransfer_random_on (cfg : STVCfg) (hr : cfg.transfer = .random) (hop : List Cand) (q : Int)
    (sample : List (List Cand × Nat)) (a b : List PBallot) (w : Cand) (h : GoodPair hop a b) :
    RelBsOn hop (applyTransfer cfg hop q sample a w) (applyTransfer cfg hop q sample b w) := by
  -- the guards see the winner's tally, the transferable weight and the unmet requests, all class totals
  have hint : ∀ l : List PBallot, IntW l →
      ((l.filter (fun x => topOf hop x.1 = some w)).any (fun x => !isIntRat x.2)) = false := fun l hl =>
    List.any_eq_false.2 fun x hx => by rw [(hl x (List.mem_filter.1 hx).1).1]; decide
  have htally := h.eq.tally w
  have htrans : rsum (((a.filter (fun x => topOf hop x.1 = some w)).filter
        (fun x => !(contRanking hop w x.1).isEmpty)).map (·.2)) =
      rsum (((b.filter (fun x => topOf hop x.1 = some w)).filter
        (fun x => !(contRanking hop w x.1).isEmpty)).map (·.2)) := by
    rw [List.filter_filter, List.filter_filter]
    exact h.eq.wsum (fun r => !(contRanking hop w r).isEmpty && decide (topOf hop r = some w))
      fun r => by rw [topOf_restr, contRanking_restr]
  have hneed : (randomAssign hop w a sample).2 = (randomAssign hop w b sample).2 := by
    rw [randomAssign_need, randomAssign_need, funext (classAvail_lineqOn hop w a b h.eq h.ia h.ib)]
  unfold applyTransfer
  simp only [hr, hint a h.ia, hint b h.ib, Bool.false_eq_true, if_false, ← htally, ← htrans, ← hneed]
  refine (relBsOn_iff _ _ _).2 <| .ite (fun _ => rfl) fun _ => .ite (fun _ => trivial) fun _ =>
    .ite (fun _ => trivial) fun hserved => ?_
  refine randomAssign_goodPair h w sample hneed fun kn hkn => ?_
  by_contra hne
  exact hserved (List.any_eq_true.2 ⟨kn, hkn, by simpa using hne⟩)

theorem GoodPair.mono {hop hop' : List Cand} {a b : List PBallot} (h : GoodPair hop a b)
    (hsub : ∀ c, hop'.contains c = true → hop.contains c = true) : GoodPair hop' a b :=
  ⟨h.eq.mono hsub, h.ia, h.ib, h.na, h.nb⟩

theorem blind_goodPair {cfg : STVCfg} (hr : cfg.transfer = .random) : Blind cfg GoodPair where
  tallies h := h.eq.tallies
  shrink p h := h.mono fun c hc => by
    simp only [List.contains_iff_mem] at hc ⊢
    exact (List.mem_filter.1 hc).1
  zero h := by
    have hz : ∀ l : List PBallot, IntW (l.map fun x => (x.1, (0 : Rat))) := fun l b hb => by
      obtain ⟨x, _, rfl⟩ := List.mem_map.1 hb
      exact ⟨rfl, le_refl _⟩
    have hf : ∀ l : List PBallot, (l.map fun x => (x.1, (0 : Rat))).map (·.1) = l.map (·.1) := fun l => by
      simp only [List.map_map, Function.comp_def]
    exact ⟨LinEqOn.zero _ _ _, hz _, hz _, nodupR_of_fst _ _ (hf _) h.na, nodupR_of_fst _ _ (hf _) h.nb⟩
  transfer q sample w h := (relBsOn_iff _ _ _).1 (applyTransfer_random_on cfg hr _ q sample _ _ w h)

def SameCountOn (S S2 : CState) : Prop :=
  S.hopeful = S2.hopeful ∧ S.nElected = S2.nElected ∧ GoodPair S.hopeful S.bs S2.bs

theorem sameCountOn_iff {S S2 : CState} : SameCountOn S S2 ↔ SameCountBy GoodPair S S2 := Iff.rfl

def RelStepOn : Outcome (CState × RoundState) → Outcome (CState × RoundState) → Prop
  | .ok a, .ok b => a.2 = b.2 ∧ SameCountOn a.1 b.1
  | .raised e, .raised e' => e = e'
  | .oracleMismatch, .oracleMismatch => True
  | .outOfFuel, .outOfFuel => True
  | _, _ => False

theorem relStepOn_iff (x y : Outcome (CState × RoundState)) :
    RelStepOn x y ↔ Outcome.Rel (fun a b => a.2 = b.2 ∧ SameCountOn a.1 b.1) x y := by
  cases x <;> cases y <;> exact Iff.rfl

theorem stvStep_random_on (cfg : STVCfg) (init init' : Profile) (q : Int) (ω : STVOracle) (rnd : Nat)
    (S S2 : CState) (prev : RoundState) (hr : cfg.transfer = .random) (hcfg : ProfileFreeChoice cfg)
    (hinit : firstPlaceVotes init = firstPlaceVotes init') (hS : SameCountOn S S2) :
    RelStepOn (stvStep cfg init q ω rnd S prev) (stvStep cfg init' q ω rnd S2 prev) :=
  (relStepOn_iff _ _).2 <|
    (blind_goodPair hr).step q ω rnd prev (electChoice_state_irrelevant cfg q ω rnd S S2 prev hcfg) hinit
      (sameCountOn_iff.1 hS)

end VK
