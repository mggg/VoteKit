/-
  Leaf module of check C19: the property's theorem modules and the kernel-equality modules of the
  kernels its theorems depend on (regenerated from /repo's source on every run). Nothing imports this file, so a
  changed kernel reaches only the properties listed here.
-/
import VK.Props.C19Metric
import VK.Props.C19Graph
import VK.Props.C19Rec
