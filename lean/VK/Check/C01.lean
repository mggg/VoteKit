/-
  Leaf module of check C01: the property's theorem modules and the kernel-equality modules of the
  kernels its theorems depend on (regenerated from /repo's source on every run). Nothing imports this file, so a
  changed kernel reaches only the properties listed here.
-/
import VK.Props.C01Composite
import VK.Props.C01Dictator
import VK.Props.C01VetoTerm
import VK.Props.KernelsVeto
