/-
  Leaf module of check C08: its theorem modules (the other C08 modules are reached through these). C08 depends on
  no kernel-equality module. Nothing imports this file.
-/
import VK.Props.C08Scored
import VK.Props.C08Random
import VK.Props.C08NeutralPairwise
import VK.Props.C08NeutralDictator
import VK.Props.C08CandOrderSTV
import VK.Props.C08CandOrderPairwise
import VK.Props.C08Rep
import VK.Props.C08CandOrderTopTwo
import VK.Props.C08CandOrderAlaska
import VK.Props.C08RepAlaska
import VK.Props.C08RepDictator
